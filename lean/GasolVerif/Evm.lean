/-
  (F) Foundations: a small-step EVM block machine. Specification side.
  Stack (head = top), byte-addressed memory without gas or address wrap, storage, and a trace of
  externally visible operations.  Gas, memory-expansion failure, MSIZE and PC are not modelled.
-/
import GasolVerif.Word
namespace GasolVerif

abbrev Byte := BitVec 8
abbrev Mem := Nat → Byte
abbrev Sto := Word → Word

/-- big-endian 32-byte word at `a` -/
def Mem.readBytes (m : Mem) (a : Nat) : Nat → Word
  | 0 => 0#256
  | n + 1 => (Mem.readBytes m a n <<< 8) ||| (m (a + n)).setWidth 256

def Mem.readWord (m : Mem) (a : Nat) : Word := m.readBytes a 32

def wordByte (v : Word) (i : Nat) : Byte := (v >>> (8 * (31 - i))).setWidth 8

def Mem.writeWord (m : Mem) (a : Nat) (v : Word) : Mem :=
  fun j => if a ≤ j ∧ j < a + 32 then wordByte v (j - a) else m j

def Mem.writeByte (m : Mem) (a : Nat) (v : Word) : Mem :=
  fun j => if j = a then v.setWidth 8 else m j

def Sto.write (s : Sto) (k v : Word) : Sto := fun j => if j = k then v else s j

/-- an externally visible operation: name, operands, and the whole memory and storage it saw -/
structure Event where
  name : String
  args : List Word
  mem : Mem
  sto : Sto

inductive Instr
  | push (w : Word)
  | pushSym (s : String)          -- pseudo-push, identified by its full text (`PUSH [tag] 5`, `PUSHLIB 0`, …)
  | dup (k : Nat) | swap (k : Nat) | pop
  | un (op : UnOp) | bin (op : BinOp) | ter (op : TerOp)
  | env0 (name : String)          -- ADDRESS, CALLER, …
  | env1 (name : String)          -- BALANCE, CALLDATALOAD, …
  | mload | mstore | mstore8 | sload | sstore | keccak
  | ext (name : String) (nin : Nat) (out : Bool)   -- split / terminal / marker instructions
  deriving DecidableEq, Repr, Inhabited

structure ExtRes where
  out : Word
  mem : Mem
  sto : Sto

/-- Everything a block cannot compute by itself. All fields are universally quantified in theorems.
    Reads depend on the trace so far (RETURNDATASIZE after a CALL, …). -/
structure Env where
  sym : String → Word
  env0 : String → List Event → Word
  env1 : String → List Event → Word → Word
  /-- hash of `len` bytes of the given byte source -/
  keccak : Nat → (Nat → Byte) → Word
  ext : String → List Event → List Word → Mem → Sto → ExtRes

def addrMask : Word := BitVec.ofNat 256 (2 ^ 160 - 1)

/-- assumptions on the environment under which the address-mask, `BALANCE(ADDRESS)` and
    hash-range rules are identities -/
structure Env.wf (e : Env) : Prop where
  addr160 : ∀ n, n ∈ ["ADDRESS", "CALLER", "ORIGIN", "COINBASE"] →
      ∀ tr, (e.env0 n tr) &&& addrMask = e.env0 n tr
  selfbal : ∀ tr, e.env1 "BALANCE" tr (e.env0 "ADDRESS" tr) = e.env0 "SELFBALANCE" tr
  keccak_ext : ∀ n f g, (∀ i, i < n → f i = g i) → e.keccak n f = e.keccak n g

structure St where
  stack : List Word
  mem : Mem
  sto : Sto
  trace : List Event

def step (e : Env) : Instr → St → Option St
  | .push w, s => some { s with stack := w :: s.stack }
  | .pushSym x, s => some { s with stack := e.sym x :: s.stack }
  | .dup k, s =>
    if k = 0 then none else
    match s.stack[k - 1]? with
    | some w => some { s with stack := w :: s.stack }
    | none => none
  | .swap k, s =>
    if k = 0 then none else
    match s.stack with
    | [] => none
    | top :: rest =>
      match rest[k - 1]? with
      | some w => some { s with stack := w :: rest.set (k - 1) top }
      | none => none
  | .pop, s =>
    match s.stack with
    | _ :: rest => some { s with stack := rest }
    | [] => none
  | .un op, s =>
    match s.stack with
    | a :: rest => some { s with stack := op.sem a :: rest }
    | _ => none
  | .bin op, s =>
    match s.stack with
    | a :: b :: rest => some { s with stack := op.sem a b :: rest }
    | _ => none
  | .ter op, s =>
    match s.stack with
    | a :: b :: c :: rest => some { s with stack := op.sem a b c :: rest }
    | _ => none
  | .env0 n, s => some { s with stack := e.env0 n s.trace :: s.stack }
  | .env1 n, s =>
    match s.stack with
    | a :: rest => some { s with stack := e.env1 n s.trace a :: rest }
    | _ => none
  | .mload, s =>
    match s.stack with
    | a :: rest => some { s with stack := s.mem.readWord a.toNat :: rest }
    | _ => none
  | .mstore, s =>
    match s.stack with
    | a :: v :: rest => some { s with stack := rest, mem := s.mem.writeWord a.toNat v }
    | _ => none
  | .mstore8, s =>
    match s.stack with
    | a :: v :: rest => some { s with stack := rest, mem := s.mem.writeByte a.toNat v }
    | _ => none
  | .sload, s =>
    match s.stack with
    | k :: rest => some { s with stack := s.sto k :: rest }
    | _ => none
  | .sstore, s =>
    match s.stack with
    | k :: v :: rest => some { s with stack := rest, sto := s.sto.write k v }
    | _ => none
  | .keccak, s =>
    match s.stack with
    | off :: len :: rest =>
      some { s with stack := e.keccak len.toNat (fun i => s.mem (off.toNat + i)) :: rest }
    | _ => none
  | .ext n nin out, s =>
    if s.stack.length < nin then none else
    let args := s.stack.take nin
    let rest := s.stack.drop nin
    let r := e.ext n s.trace args s.mem s.sto
    some { stack := if out then r.out :: rest else rest
           mem := r.mem, sto := r.sto
           trace := s.trace ++ [⟨n, args, s.mem, s.sto⟩] }

def exec (e : Env) : List Instr → St → Option St
  | [], s => some s
  | i :: is, s => (step e i s).bind (exec e is)

/-- `B'` may replace `B`: from every state on which `B` runs, `B'` runs and ends in the same state
    (same stack, memory, storage and the same trace of externally visible operations, each with the
    operands, memory and storage it saw).  This includes "needs no deeper stack" and "same height
    change". -/
def ObsEq (B B' : List Instr) : Prop :=
  ∀ (e : Env), e.wf → ∀ σ σ', exec e B σ = some σ' → exec e B' σ = some σ'

theorem exec_append (e : Env) (B₁ B₂ : List Instr) (σ : St) :
    exec e (B₁ ++ B₂) σ = (exec e B₁ σ).bind (exec e B₂) := by
  induction B₁ generalizing σ with
  | nil => rfl
  | cons i is ih => rw [List.cons_append, exec, exec, Option.bind_assoc, funext ih]

theorem ObsEq.refl (B : List Instr) : ObsEq B B := fun _ _ _ _ h => h

theorem ObsEq.trans {A B C : List Instr} (h₁ : ObsEq A B) (h₂ : ObsEq B C) : ObsEq A C :=
  fun e we σ σ' h => h₂ e we σ σ' (h₁ e we σ σ' h)

theorem ObsEq.append {A A' B B' : List Instr} (h₁ : ObsEq A A') (h₂ : ObsEq B B') :
    ObsEq (A ++ B) (A' ++ B') := by
  intro e we σ σ' h
  rw [exec_append] at h ⊢
  obtain ⟨σ₁, hA, hB⟩ := Option.bind_eq_some_iff.mp h
  rw [h₁ e we σ σ₁ hA]
  exact h₂ e we σ₁ σ' hB

end GasolVerif
