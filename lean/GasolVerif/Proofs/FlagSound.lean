/-
  C17: the PUSH0 flag changes the price of a zero push and nothing else (`costs_flag`, `saving_flag`);
  contract selection leaves every other contract as it was (`selection_frame`).
-/
import GasolVerif.Proofs.CostSound
namespace GasolVerif.Cost

/-- number of zero pushes (`PUSH 0` / `PUSH0`: one instruction in the machine) -/
def zeroPushes (B : List Instr) : Nat :=
  (B.filter fun i => match i with | .push w => w == 0#256 | _ => false).length

theorem zeroPushes_append (A B : List Instr) : zeroPushes (A ++ B) = zeroPushes A + zeroPushes B := by
  simp only [zeroPushes, List.filter_append, List.length_append]

theorem gasOf_flag (i : Instr) : gasOf false i = gasOf true i + zeroPushes [i] := by
  cases i with
  | push w => by_cases hw : w = 0#256 <;> simp [gasOf.eq_def, zeroPushes, hw]
  | _ => rfl

theorem bytesOf_flag (i : Instr) : bytesOf false i = bytesOf true i + zeroPushes [i] := by
  cases i with
  | push w => by_cases hw : w = 0#256 <;> simp [bytesOf.eq_def, byteLen, zeroPushes, hw]
  | _ => rfl

/-- **a zero push is priced as PUSH0 (2 gas, 1 byte) when the flag is on and as PUSH1 0 (3 gas, 2 bytes) when it is
    off; nothing else depends on the flag** -/
theorem costs_flag (B : List Instr) :
    (costs false B).gas = (costs true B).gas + zeroPushes B ∧
    (costs false B).bytes = (costs true B).bytes + zeroPushes B ∧
    (costs false B).len = (costs true B).len := by
  refine ⟨?_, ?_, rfl⟩ <;> induction B with
  | nil => rfl
  | cons i B ih =>
    have hz : zeroPushes (i :: B) = _ := zeroPushes_append [i] B
    simp only [costs, List.map_cons, List.sum_cons, hz, gasOf_flag i, bytesOf_flag i] at ih ⊢
    omega

/-- the savings the tool computes for a replacement differ between the two flag values exactly by the number of zero
    pushes removed: the same flag on both sides gives a consistent comparison -/
theorem saving_flag (B B' : List Instr) :
    ((costs false B).gas : Int) - (costs false B').gas =
      ((costs true B).gas : Int) - (costs true B').gas + ((zeroPushes B : Int) - zeroPushes B') ∧
    ((costs false B).bytes : Int) - (costs false B').bytes =
      ((costs true B).bytes : Int) - (costs true B').bytes + ((zeroPushes B : Int) - zeroPushes B') := by
  have h1 := costs_flag B
  have h2 := costs_flag B'
  omega

structure Contract (α : Type) where
  name : String
  code : α

/-- `-c name`: the optimizer `opt` is applied to the selected contract and to no other -/
def optimizeSelected {α : Type} (sel : Option String) (opt : α → α) (cs : List (Contract α)) : List (Contract α) :=
  cs.map fun c => if sel = none ∨ sel = some c.name then { c with code := opt c.code } else c

theorem selection_frame {α : Type} (sel : String) (opt : α → α) (cs : List (Contract α)) :
    ∀ c ∈ cs, c.name ≠ sel → c ∈ optimizeSelected (some sel) opt cs := by
  intro c hc hn
  simp only [optimizeSelected, List.mem_map]
  refine ⟨c, hc, ?_⟩
  simp [Ne.symm hn]

theorem selection_names {α : Type} (sel : Option String) (opt : α → α) (cs : List (Contract α)) :
    (optimizeSelected sel opt cs).map (·.name) = cs.map (·.name) := by
  simp only [optimizeSelected, List.map_map]
  apply List.map_congr_left
  intro c _
  simp only [Function.comp]
  split <;> rfl

end GasolVerif.Cost
