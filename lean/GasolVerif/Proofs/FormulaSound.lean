/-
  C18: the constructors of the constraint interface preserve truth value under every valuation,
  and structural equality (`Connector.__eq__`, modelled by `pyEq`) implies equal value.
-/
import GasolVerif.Models.Formula
namespace GasolVerif.Formula

variable (v : Val)

theorem evalAll_iff (as : List F) : evalAll v as = true ↔ ∀ f ∈ as, evalB v f = true := by
  induction as with
  | nil => simp [evalAll]
  | cons a as ih => simp [evalAll, ih]

theorem evalAny_iff (as : List F) : evalAny v as = true ↔ ∃ f ∈ as, evalB v f = true := by
  induction as with
  | nil => simp [evalAny]
  | cons a as ih => simp [evalAny, ih]

theorem evalAll_append (as bs : List F) : evalAll v (as ++ bs) = (evalAll v as && evalAll v bs) := by
  induction as with
  | nil => simp [evalAll]
  | cons a as ih => simp [evalAll, ih, Bool.and_assoc]

theorem evalAny_append (as bs : List F) : evalAny v (as ++ bs) = (evalAny v as || evalAny v bs) := by
  induction as with
  | nil => simp [evalAny]
  | cons a as ih => simp [evalAny, ih, Bool.or_assoc]

/-- `and` and `or` with the literal that absorbs each (`false`, `true`): `add_and` and `add_or` are the same code up to this
    choice, and whatever is proved of a `Junct c ab` holds of both -/
inductive Junct : Conn → Bool → Prop
  | and : Junct .and false
  | or : Junct .or true

theorem eq_of_eq_iff : ∀ {x y ab : Bool}, (x = ab ↔ y = ab) → x = y := by decide

theorem isLit_iff {b : Bool} {a : F} : isLit b a = true ↔ a = .lit b := by
  cases a <;> simp [isLit]

section
variable {c : Conn} {ab : Bool} (hj : Junct c ab)
include hj

theorem evalJ_iff (as : List F) : evalB v (.conn c as) = ab ↔ ∃ a ∈ as, evalB v a = ab := by
  cases hj
  · rw [evalB, ← Bool.not_eq_true, evalAll_iff]; simp
  · rw [evalB, evalAny_iff]

theorem evalJ_congr {as bs : List F} (h : (∃ a ∈ as, evalB v a = ab) ↔ ∃ b ∈ bs, evalB v b = ab) :
    evalB v (.conn c as) = evalB v (.conn c bs) :=
  eq_of_eq_iff ((evalJ_iff v hj as).trans (h.trans (evalJ_iff v hj bs).symm))

theorem flatten_evalJ (as : List F) (h : as.any (isLit ab) = false) :
    evalB v (.conn c (flatten c as)) = evalB v (.conn c as) := by
  apply evalJ_congr v hj
  fun_induction flatten c as with
  | case1 => rfl
  | case2 b as ih =>                                    -- a literal: dropped
    rw [List.any_cons, Bool.or_eq_false_iff] at h
    have hb : b ≠ ab := ne_of_beq_false h.1
    simp only [ih h.2, List.mem_cons, exists_eq_or_imp, evalB, hb, false_or]
  | case3 xs as ih =>                                   -- `.conn c xs`: spliced in
    rw [List.any_cons, Bool.or_eq_false_iff] at h
    simp only [List.mem_append, List.mem_cons, or_and_right, exists_or, exists_eq_left, ih h.2, evalJ_iff v hj xs]
  | case4 c' xs as _ ih | case5 a as _ _ ih =>          -- another connective, an atom or a number: kept
    rw [List.any_cons, Bool.or_eq_false_iff] at h
    simp only [ih h.2, List.mem_cons, exists_eq_or_imp]

end

def mkJ (c : Conn) (ab : Bool) (args : List F) : Except Err F :=
  if args.isEmpty then .error .emptyArgs
  else if args.any (isLit ab) then .ok (.lit ab)
  else
    match flatten c args with
    | [x] => .ok x
    | [] => .error .emptyArgs
    | xs => .ok (.conn c xs)

theorem mkAnd_eq_mkJ (as : List F) : mkAnd as = mkJ .and false as := rfl

theorem mkOr_eq_mkJ (as : List F) : mkOr as = mkJ .or true as := rfl

theorem mkJ_eval {c : Conn} {ab : Bool} (hj : Junct c ab) (as : List F) (r : F) :
    mkJ c ab as = .ok r → evalB v r = evalB v (.conn c as) := by
  fun_cases mkJ c ab as <;> rintro ⟨⟩      -- two places raise, three return:
  case case2 _ hl =>                                            -- the absorbing literal: an argument is one
    obtain ⟨a, ha, hl⟩ := List.any_eq_true.mp hl
    exact ((evalJ_iff v hj as).mpr ⟨a, ha, by rw [isLit_iff.mp hl, evalB]⟩).symm
  case case3 _ hl hx =>                                         -- the one formula left after flattening
    rw [← flatten_evalJ v hj as (Bool.eq_false_iff.mpr hl), hx]
    exact eq_of_eq_iff (ab := ab) (by simp [evalJ_iff v hj])
  case case5 _ hl _ _ => exact flatten_evalJ v hj as (Bool.eq_false_iff.mpr hl)      -- the junction of several

/-- `add_and`: whenever it does not raise, the result has the truth value of the conjunction -/
theorem mkAnd_eval (as : List F) (r : F) (h : mkAnd as = .ok r) : evalB v r = evalAll v as := by
  rw [mkJ_eval v .and as r (mkAnd_eq_mkJ as ▸ h), evalB]

theorem mkOr_eval (as : List F) (r : F) (h : mkOr as = .ok r) : evalB v r = evalAny v as := by
  rw [mkJ_eval v .or as r (mkOr_eq_mkJ as ▸ h), evalB]

/-- `add_and`/`add_or` raise exactly when every argument is a literal that is dropped -/
theorem mkAnd_error_iff (as : List F) :
    (∃ e, mkAnd as = .error e) ↔ (as.isEmpty ∨ (as.any (isLit false) = false ∧ flatten .and as = [])) := by
  fun_cases mkAnd as
  case case5 _ _ _ hne => simpa [*] using hne      -- the last clause of the match: `flatten .and as` is neither a singleton nor empty
  all_goals simp [*]

theorem mkNot_eval (a : F) : evalB v (mkNot a) = !evalB v a := by
  unfold mkNot
  split <;> simp [evalB]

theorem mkImplies_eval (l r : F) : evalB v (mkImplies l r) = (!evalB v l || evalB v r) := by
  unfold mkImplies
  split <;> simp [evalB, mkNot_eval]

theorem beq_sound : (∀ a b : F, F.beq a b = true → a = b) ∧ ∀ as bs : List F, F.beqList as bs = true → as = bs := by
  apply F.beq.mutual_induct_unfolding (fun a b r => r = true → a = b) (fun as bs r => r = true → as = bs)
  · exact fun a b h => congrArg F.lit (eq_of_beq h)
  · exact fun a b h => congrArg F.num (eq_of_beq h)
  · intro n s as n' s' as' ih h
    simp only [Bool.and_eq_true, beq_iff_eq] at h
    rw [h.1.1, h.1.2, ih h.2]
  · intro c as c' as' ih h
    simp only [Bool.and_eq_true, beq_iff_eq] at h
    rw [h.1, ih h.2]
  · nofun -- the catch-all clause: the result is `false`
  · exact fun _ => rfl
  · intro a as b bs iha ihas h
    simp only [Bool.and_eq_true] at h
    rw [iha h.1, ihas h.2]
  · nofun

theorem beq_eq : ∀ (a b : F), F.beq a b = true → a = b := beq_sound.1
theorem beqList_eq : ∀ (as bs : List F), F.beqList as bs = true → as = bs := beq_sound.2

theorem evalIs_eq_map (as : List F) : evalIs v as = as.map (evalI v) := by
  induction as with
  | nil => rfl
  | cons a as ih => simp [evalIs, ih]

inductive Pointwise (R : F → F → Prop) : List F → List F → Prop
  | nil : Pointwise R [] []
  | cons {f r : F} {fs rs : List F} : R f r → Pointwise R fs rs → Pointwise R (f :: fs) (r :: rs)

section
variable {R : F → F → Prop}

theorem Pointwise.single {a : F} {rs : List F} (h : Pointwise R [a] rs) : ∃ a', rs = [a'] ∧ R a a' := by
  cases h with
  | cons h ht =>
    cases ht
    exact ⟨_, rfl, h⟩

theorem Pointwise.pair {a b : F} {rs : List F} (h : Pointwise R [a, b] rs) : ∃ a' b', rs = [a', b'] ∧ R a a' ∧ R b b' := by
  cases h with
  | cons ha ht =>
    obtain ⟨b', rfl, hb⟩ := ht.single
    exact ⟨_, b', rfl, ha, hb⟩

theorem Pointwise.imp {S : F → F → Prop} (hRS : ∀ f r, R f r → S f r) {fs rs : List F} (h : Pointwise R fs rs) :
    Pointwise S fs rs := by
  induction h with
  | nil => exact .nil
  | cons h _ ih => exact .cons (hRS _ _ h) ih
end

/-- the applications that `F.ws` admits, with what it demands of the arguments -/
inductive WsConn : Conn → List F → Prop
  | junct {c : Conn} {ab : Bool} {fs : List F} (hj : Junct c ab) (hw : F.wsList fs = true) (hb : allBool fs = true) : WsConn c fs
  | distinct {fs : List F} (hw : F.wsList fs = true) (hn : noneBool fs = true) : WsConn .distinct fs
  | not {a : F} (wa : a.ws = true) (ba : a.isBoolSorted = true) : WsConn .not [a]
  | imp {a b : F} (wa : a.ws = true) (wb : b.ws = true) (ba : a.isBoolSorted = true) (bb : b.isBoolSorted = true) : WsConn .imp [a, b]
  | eq {a b : F} (wa : a.ws = true) (wb : b.ws = true) (hs : a.isBoolSorted = b.isBoolSorted) : WsConn .eq [a, b]
  | lt {a b : F} (wa : a.ws = true) (wb : b.ws = true) (na : a.isBoolSorted = false) (nb : b.isBoolSorted = false) : WsConn .lt [a, b]
  | le {a b : F} (wa : a.ws = true) (wb : b.ws = true) (na : a.isBoolSorted = false) (nb : b.isBoolSorted = false) : WsConn .le [a, b]

-- the clauses of `F.ws`; on every other shape of application it computes to `false`
theorem ws_conn : ∀ {c : Conn} {fs : List F}, F.ws (.conn c fs) = true → WsConn c fs
  | .and, _, h => by simp only [F.ws, Bool.and_eq_true] at h; exact .junct .and h.1.1 h.2
  | .or, _, h => by simp only [F.ws, Bool.and_eq_true] at h; exact .junct .or h.1.1 h.2
  | .distinct, _, h => by simp only [F.ws, Bool.and_eq_true] at h; exact .distinct h.1.1 h.2
  | .not, [a], h => by simp only [F.ws, Bool.and_eq_true] at h; exact .not h.1 h.2
  | .imp, [a, b], h => by simp only [F.ws, Bool.and_eq_true] at h; exact .imp h.1.1.1 h.1.1.2 h.1.2 h.2
  | .eq, [a, b], h => by simp only [F.ws, Bool.and_eq_true, beq_iff_eq] at h; exact .eq h.1.1 h.1.2 h.2
  | .lt, [a, b], h => by simp only [F.ws, Bool.and_eq_true, Bool.not_eq_true'] at h; exact .lt h.1.1.1 h.1.1.2 h.1.2 h.2
  | .le, [a, b], h => by simp only [F.ws, Bool.and_eq_true, Bool.not_eq_true'] at h; exact .le h.1.1.1 h.1.1.2 h.1.2 h.2

theorem wsList_of_ws_conn (c : Conn) (fs : List F) (h : F.ws (.conn c fs) = true) : F.wsList fs = true := by
  cases ws_conn h with
  | junct _ hw | distinct hw => exact hw
  | not wa => simp only [F.wsList, wa, Bool.and_self]
  | imp wa wb | eq wa wb | lt wa wb | le wa wb => simp only [F.wsList, wa, wb, Bool.and_self]

/-- what replacing a subformula `f` by `r` must preserve for the formula around it to keep its value: the truth value, the sort,
    and the integer value where `f` is integer-sorted (a boolean `r` may be a literal where `f` is not) -/
structure Sim (v : Val) (f r : F) : Prop where
  val : evalB v r = evalB v f
  sort : r.isBoolSorted = f.isBoolSorted
  int : f.isBoolSorted = false → evalI v r = evalI v f

theorem sim_all {fs rs : List F} (hs : Pointwise (Sim v) fs rs) :
    evalAll v rs = evalAll v fs ∧ evalAny v rs = evalAny v fs ∧ (noneBool fs = true → evalIs v rs = evalIs v fs) := by
  induction hs with
  | nil => exact ⟨rfl, rfl, fun _ => rfl⟩
  | cons h _ ih =>
    obtain ⟨hall, hany, hints⟩ := ih
    refine ⟨by simp only [evalAll, h.val, hall], by simp only [evalAny, h.val, hany], fun hn => ?_⟩
    simp only [noneBool, Bool.and_eq_true, Bool.not_eq_true'] at hn
    simp only [evalIs, h.int hn.1, hints hn.2]

theorem evalB_conn_congr (c : Conn) (fs rs : List F) (hw : F.ws (.conn c fs) = true) (hs : Pointwise (Sim v) fs rs) :
    evalB v (.conn c rs) = evalB v (.conn c fs) := by
  obtain ⟨hall, hany, hints⟩ := sim_all v hs
  cases ws_conn hw with
  | junct hj => cases hj <;> simp only [evalB, hall, hany]
  | distinct _ hn => simp only [evalB, hints hn]
  | not =>
    obtain ⟨a', rfl, h⟩ := hs.single
    simp only [evalB, h.val]
  | imp =>
    obtain ⟨a', b', rfl, ha, hb⟩ := hs.pair
    simp only [evalB, ha.val, hb.val]
  | @eq a _ _ _ hsort =>
    obtain ⟨a', b', rfl, ha, hb⟩ := hs.pair
    cases hn : a.isBoolSorted
    · simp only [evalB, ha.sort, hn, ha.int hn, hb.int (hsort ▸ hn), Bool.false_eq_true, if_false]
    · simp only [evalB, ha.sort, hn, ha.val, hb.val, if_true]
  | lt _ _ na nb | le _ _ na nb =>
    obtain ⟨a', b', rfl, ha, hb⟩ := hs.pair
    simp only [evalB, ha.int na, hb.int nb]

theorem pairwiseDistinct_iff : ∀ l : List Int, pairwiseDistinct l = true ↔ l.Nodup
  | [] => by simp [pairwiseDistinct]
  | a :: l => by simp [pairwiseDistinct, pairwiseDistinct_iff l]

theorem perm_pair {α : Type} {p q a b : α} (h : [p, q].Perm [a, b]) : (p = a ∧ q = b) ∨ (p = b ∧ q = a) := by
  have hp : p = a ∨ p = b := by simpa using h.mem_iff.mp List.mem_cons_self
  rcases hp with rfl | rfl
  · exact .inl ⟨rfl, List.singleton_perm_singleton.mp ((List.perm_cons p).mp h)⟩
  · exact .inr ⟨rfl, List.singleton_perm_singleton.mp ((List.perm_cons p).mp (h.trans (List.Perm.swap p a [])))⟩

/-- `as` is similar to the arguments `fs` of a well-sorted application: that fixes its length and, for `=`, that both arguments are
    of one sort -/
theorem evalB_conn_perm (c : Conn) (hc : c.comm = true) (fs as bs : List F) (hw : F.ws (.conn c fs) = true)
    (hs : Pointwise (Sim v) fs as) (hp : as.Perm bs) : evalB v (.conn c bs) = evalB v (.conn c as) := by
  cases ws_conn hw with
  | junct hj => exact evalJ_congr v hj (exists_congr fun a => and_congr_left' hp.mem_iff.symm)
  | distinct =>
    simp only [evalB, evalIs_eq_map]
    exact Bool.eq_iff_iff.mpr (by rw [pairwiseDistinct_iff, pairwiseDistinct_iff]; exact (hp.map _).nodup_iff.symm)
  | not =>
    obtain ⟨a', rfl, -⟩ := hs.single
    rw [List.singleton_perm.mp hp]
  | eq _ _ hsort =>
    obtain ⟨a', b', rfl, ha, hb⟩ := hs.pair
    match bs, hp, hp.length_eq with
    | [p, q], hp, _ =>
      rcases perm_pair hp with ⟨rfl, rfl⟩ | ⟨rfl, rfl⟩
      · rfl
      · simp only [evalB, ha.sort, hb.sort, hsort, Bool.beq_comm (a := evalB v b'), Bool.beq_comm (a := evalI v b')]
  | imp | lt | le => cases hc      -- not commutative

theorem canonList_length (fs : List F) : (canonList fs).length = fs.length := by
  induction fs with
  | nil => rfl
  | cons a as ih => simp [canonList, ih]

mutual
theorem canon_sound (v : Val) : ∀ (f : F), f.ws = true →
    evalB v (canon f) = evalB v f ∧ evalI v (canon f) = evalI v f ∧ (canon f).isBoolSorted = f.isBoolSorted
  | .lit b, _ => ⟨rfl, rfl, rfl⟩
  | .num n, _ => ⟨rfl, rfl, rfl⟩
  | .atom n s args, h => by
    obtain ⟨hints, -⟩ := canonList_sound v args h
    simp only [canon, evalB, evalI, F.isBoolSorted, hints, and_self]
  | .conn c args, h => by
    refine ⟨?_, by simp only [canon, evalI], by simp only [canon, F.isBoolSorted]⟩
    have hs := canonList_sim v args (wsList_of_ws_conn c args h)
    have hcg := evalB_conn_congr v c args (canonList args) h hs
    simp only [canon]
    split
    · rename_i hc
      rw [evalB_conn_perm v c hc args _ _ h hs (List.mergeSort_perm _ _).symm, hcg]
    · exact hcg
theorem canonList_sim (v : Val) : ∀ (fs : List F), F.wsList fs = true → Pointwise (Sim v) fs (canonList fs)
  | [], _ => .nil
  | a :: as, h => by
    simp only [F.wsList, Bool.and_eq_true] at h
    obtain ⟨hval, hint, hsort⟩ := canon_sound v a h.1
    exact .cons ⟨hval, hsort, fun _ => hint⟩ (canonList_sim v as h.2)
theorem canonList_sound (v : Val) : ∀ (fs : List F), F.wsList fs = true →
    evalIs v (canonList fs) = evalIs v fs ∧ evalAll v (canonList fs) = evalAll v fs ∧
      evalAny v (canonList fs) = evalAny v fs
  | [], _ => ⟨rfl, rfl, rfl⟩
  | a :: as, h => by
    simp only [F.wsList, Bool.and_eq_true] at h
    obtain ⟨hval, hint, -⟩ := canon_sound v a h.1
    obtain ⟨hints, hall, hany⟩ := canonList_sound v as h.2
    simp only [canonList, evalIs, evalAll, evalAny, hval, hint, hints, hall, hany, and_self]
end

/-- **structural equality implies equal value**: `pyEq` models `Connector.__eq__` /
    `ExpressionReference.__eq__` (equality modulo the order of the arguments of commutative connectors) -/
theorem pyEq_sound (f g : F) (hf : f.ws = true) (hg : g.ws = true) (h : pyEq f g = true) :
    evalB v f = evalB v g ∧ evalI v f = evalI v g ∧ f.isBoolSorted = g.isBoolSorted := by
  obtain ⟨fval, fint, fsort⟩ := canon_sound v f hf
  obtain ⟨gval, gint, gsort⟩ := canon_sound v g hg
  rw [beq_eq (canon f) (canon g) h] at fval fint fsort
  exact ⟨fval.symm.trans gval, fint.symm.trans gint, fsort.symm.trans gsort⟩

/-- `add_eq` -/
theorem mkEq_eval (l r : F) (hl : l.ws = true) (hr : r.ws = true) (hs : l.isBoolSorted = r.isBoolSorted) :
    evalB v (mkEq l r) = evalB v (.conn .eq [l, r]) := by
  unfold mkEq
  split
  · rename_i b hb
    unfold pyLitEq at hb
    split at hb <;> cases hb
    · simp [evalB, F.isBoolSorted]             -- two literals
    · simp [evalB, F.isBoolSorted, evalI]      -- two integers
    all_goals cases hs                         -- a literal and an integer are not of one sort
  · split
    · rename_i hpe
      obtain ⟨hval, hint, -⟩ := pyEq_sound v l r hl hr hpe
      simp [evalB, hval, hint]
    · rfl

theorem wsList_iff {as : List F} : F.wsList as = true ↔ ∀ a ∈ as, a.ws = true := by
  induction as with
  | nil => simp [F.wsList]
  | cons a as ih => simp [F.wsList, ih]

theorem wsBool_iff {as : List F} :
    F.wsList as = true ∧ allBool as = true ↔ ∀ a ∈ as, a.ws = true ∧ a.isBoolSorted = true := by
  induction as with
  | nil => simp [F.wsList, allBool]
  | cons a as ih => simp only [F.wsList, allBool, Bool.and_eq_true, List.forall_mem_cons, ← ih, and_and_and_comm]

theorem flatten_forall {P : F → Prop} {c : Conn} (hP : ∀ xs, P (.conn c xs) → ∀ x ∈ xs, P x) {as : List F}
    (h : ∀ a ∈ as, P a) : ∀ x ∈ flatten c as, P x := by
  fun_induction flatten c as with
  | case1 => nofun
  | case2 b as ih => exact ih fun x hx => h x (.tail _ hx)      -- a literal: dropped
  | case3 xs as ih =>                                          -- `.conn c xs`: spliced in
    rw [List.forall_mem_cons] at h
    exact fun x hx => (List.mem_append.mp hx).elim (hP xs h.1 x) (ih h.2 x)
  | case4 c' xs as _ ih | case5 a as _ _ ih =>                 -- anything else: kept
    rw [List.forall_mem_cons] at h ⊢
    exact ⟨h.1, ih h.2⟩

theorem flatten_ws (c : Conn) (as : List F) (h : F.wsList as = true) : F.wsList (flatten c as) = true :=
  wsList_iff.mpr (flatten_forall (fun xs h => wsList_iff.mp (wsList_of_ws_conn c xs h)) (wsList_iff.mp h))

set_option linter.unusedVariables false in      -- `hc` is not needed
theorem mem_flatten_ws (c : Conn) (hc : c = .and ∨ c = .or) (as : List F) (h : F.wsList as = true) (x : F)
    (hx : flatten c as = [x]) : x.ws = true :=
  wsList_iff.mp (flatten_ws c as h) x (hx ▸ List.mem_singleton_self x)

theorem mkJ_props {c : Conn} {ab : Bool} (hj : Junct c ab) (as : List F) (r : F) (hw : F.wsList as = true)
    (hb : allBool as = true) : mkJ c ab as = .ok r → r.ws = true ∧ r.isBoolSorted = true := by
  have hf : ∀ x ∈ flatten c as, x.ws = true ∧ x.isBoolSorted = true := by
    refine flatten_forall (fun xs hxs => ?_) (wsBool_iff.mp ⟨hw, hb⟩)
    cases hj <;> cases ws_conn hxs.1 with
      | junct _ hw hb => exact wsBool_iff.mp ⟨hw, hb⟩
  fun_cases mkJ c ab as <;> rintro ⟨⟩      -- as in `mkJ_eval`: the literal, the one formula left, the junction of several
  case case2 => exact ⟨rfl, rfl⟩
  case case3 hx => exact hf r (hx ▸ List.mem_singleton_self r)
  case case5 _ hne =>
    obtain ⟨hws, hbs⟩ := wsBool_iff.mpr hf
    have hemp := List.isEmpty_eq_false_iff.mpr hne
    cases hj <;> exact ⟨by simp only [F.ws, hws, hbs, hemp, Bool.not_false, Bool.and_self], rfl⟩

theorem mkNot_props (a : F) (hw : a.ws = true) (hb : a.isBoolSorted = true) :
    (mkNot a).ws = true ∧ (mkNot a).isBoolSorted = true := by
  unfold mkNot
  split
  · simpa [F.ws] using hw
  · simp [F.ws, F.isBoolSorted]
  · exact ⟨by simp [F.ws, hw, hb], rfl⟩

theorem mkImplies_props (l r : F) (hl : l.ws = true) (hr : r.ws = true) (bl : l.isBoolSorted = true)
    (br : r.isBoolSorted = true) : (mkImplies l r).ws = true ∧ (mkImplies l r).isBoolSorted = true := by
  unfold mkImplies
  split
  · simp [F.ws, F.isBoolSorted]
  · exact ⟨hr, br⟩
  · simp [F.ws, F.isBoolSorted]
  · exact mkNot_props _ hl bl
  · exact ⟨by simp [F.ws, hl, hr, bl, br], rfl⟩

theorem mkEq_props (l r : F) (hl : l.ws = true) (hr : r.ws = true) (hs : l.isBoolSorted = r.isBoolSorted) :
    (mkEq l r).ws = true ∧ (mkEq l r).isBoolSorted = true := by
  unfold mkEq
  split
  · simp [F.ws, F.isBoolSorted]
  · split
    · simp [F.ws, F.isBoolSorted]
    · exact ⟨by simp [F.ws, hl, hr, hs], rfl⟩

/-- what building preserves: truth value, sort, well-sortedness; integer-sorted formulas are untouched -/
def Rel (v : Val) (f r : F) : Prop :=
  evalB v r = evalB v f ∧ r.isBoolSorted = f.isBoolSorted ∧ r.ws = true ∧ (f.isBoolSorted = false → r = f)

def RelList (v : Val) : List F → List F → Prop
  | [], [] => True
  | f :: fs, r :: rs => Rel v f r ∧ RelList v fs rs
  | _, _ => False

theorem RelList.pointwise : ∀ {fs rs : List F}, RelList v fs rs → Pointwise (Rel v) fs rs
  | [], [], _ => .nil
  | _ :: _, _ :: _, h => .cons h.1 (RelList.pointwise h.2)
  | [], _ :: _, h | _ :: _, [], h => h.elim

theorem rel_all {fs rs : List F} (h : Pointwise (Rel v) fs rs) :
    F.wsList rs = true ∧ allBool rs = allBool fs ∧ (noneBool fs = true → rs = fs) := by
  induction h with
  | nil => exact ⟨rfl, rfl, fun _ => rfl⟩
  | cons h _ ih =>
    obtain ⟨-, hsort, hw, heq⟩ := h
    obtain ⟨hws, hsorts, heqs⟩ := ih
    refine ⟨by simp only [F.wsList, hw, hws, Bool.and_self], by simp only [allBool, hsort, hsorts], fun hn => ?_⟩
    simp only [noneBool, Bool.and_eq_true, Bool.not_eq_true'] at hn
    rw [heq hn.1, heqs hn.2]

theorem Rel.sim {f r : F} : Rel v f r → Sim v f r
  | ⟨hval, hsort, _, heq⟩ => ⟨hval, hsort, fun hn => by rw [heq hn]⟩

theorem build1_rel (c : Conn) (fs rs : List F) (r : F) (hw : F.ws (.conn c fs) = true) (hl : RelList v fs rs)
    (h : build1 c rs = .ok r) : Rel v (.conn c fs) r := by
  have hp := RelList.pointwise v hl
  have hcg := evalB_conn_congr v c fs rs hw (hp.imp fun _ _ => Rel.sim v)
  suffices h : evalB v r = evalB v (.conn c rs) ∧ r.ws = true ∧ r.isBoolSorted = true from
    ⟨h.1.trans hcg, h.2.2, h.2.1, fun hn => by cases hn⟩
  obtain ⟨hws, hsorts, heqs⟩ := rel_all v hp
  cases ws_conn hw with
  | @junct _ ab _ hj _ hb =>
    have hb1 : build1 c rs = mkJ c ab rs := by
      cases hj
      · exact mkAnd_eq_mkJ rs
      · exact mkOr_eq_mkJ rs
    rw [hb1] at h
    exact ⟨mkJ_eval v hj rs r h, mkJ_props hj rs r hws (hsorts.trans hb) h⟩
  | distinct _ hn =>
    cases heqs hn
    simp only [build1, mkDistinct] at h
    split at h <;> cases h
    exact ⟨rfl, hw, rfl⟩
  | not _ ba =>
    obtain ⟨a', rfl, -, sa, wa, -⟩ := hp.single
    cases h
    exact ⟨mkNot_eval v a', mkNot_props a' wa (sa.trans ba)⟩
  | imp _ _ ba bb =>
    obtain ⟨a', b', rfl, ⟨-, sa, wa, -⟩, -, sb, wb, -⟩ := hp.pair
    cases h
    exact ⟨mkImplies_eval v a' b', mkImplies_props a' b' wa wb (sa.trans ba) (sb.trans bb)⟩
  | eq _ _ hsort =>
    obtain ⟨a', b', rfl, ⟨-, sa, wa, -⟩, -, sb, wb, -⟩ := hp.pair
    have hs : a'.isBoolSorted = b'.isBoolSorted := by rw [sa, sb, hsort]
    cases h
    exact ⟨mkEq_eval v a' b' wa wb hs, mkEq_props a' b' wa wb hs⟩
  | lt _ _ na nb | le _ _ na nb =>
    -- integer-sorted arguments are built as they are
    cases heqs (by simp only [noneBool, na, nb, Bool.not_false, Bool.and_self])
    cases h
    exact ⟨rfl, hw, rfl⟩

theorem bind_ok {α β : Type} {x : Except Err α} {f : α → Except Err β} {b : β} (h : x >>= f = .ok b) :
    ∃ a, x = .ok a ∧ f a = .ok b := by
  cases x with
  | error e => cases h
  | ok a => exact ⟨a, rfl, h⟩

mutual
/-- **every formula built through the constraint-construction interface has the truth value of the
    unsimplified formula it was built from**, under every valuation (well-sorted input, no raise) -/
theorem build_eval (v : Val) : ∀ (f r : F), f.ws = true → build f = .ok r → Rel v f r
  | .lit b, r, _, h => by cases h; exact ⟨rfl, rfl, rfl, fun _ => rfl⟩
  | .num n, r, _, h => by cases h; exact ⟨rfl, rfl, rfl, fun _ => rfl⟩
  | .atom n s args, r, hw, h => by cases h; exact ⟨rfl, rfl, hw, fun _ => rfl⟩
  | .conn c args, r, hw, h => by
    obtain ⟨as, hb, h⟩ := bind_ok h
    exact build1_rel v c args as r hw (buildList_eval v args as (wsList_of_ws_conn c args hw) hb) h
theorem buildList_eval (v : Val) : ∀ (fs rs : List F), F.wsList fs = true → buildList fs = .ok rs → RelList v fs rs
  | [], rs, _, h => by cases h; trivial
  | f :: fs, rs, hw, h => by
    simp only [F.wsList, Bool.and_eq_true] at hw
    obtain ⟨x, hf, h⟩ := bind_ok h
    obtain ⟨xs, hfs, h⟩ := bind_ok h
    cases h
    exact ⟨build_eval v f x hw.1 hf, buildList_eval v fs xs hw.2 hfs⟩
end

end GasolVerif.Formula
