/-
  C15, clause one on items: reading a JSON assembly item and writing it back gives the item again, up to the documented
  spelling of a zero push as PUSH0 when PUSH0 is enabled; a whole list of items likewise (the PUSHLIB table is threaded but never
  reaches the output); and what was written is a fixed point (reading it again and writing gives the same text).
-/
import GasolVerif.Models.JsonItem
namespace GasolVerif.Json

/-- **one item**: `to_json(build_asm_bytecode(j)) = j` up to the PUSH0 spelling, for every well-formed item, every PUSHLIB table
    and either PUSH0 setting -/
theorem toJson_build (p0 : Bool) (j : JItem) (tbl : List String) (hw : j.wf = true) :
    ∃ b tbl', build p0 j tbl = some (b, tbl') ∧ toJson b = normP0 p0 j := by
  obtain ⟨b, e, n, s, v, jt, md⟩ := j
  simp only [JItem.wf, Bool.and_eq_true, Option.isSome_iff_exists, Bool.or_eq_true, bne_iff_ne, ne_eq] at hw
  obtain ⟨⟨⟨⟨⟨b', rfl⟩, ⟨e', rfl⟩⟩, ⟨n', rfl⟩⟩, ⟨s', rfl⟩⟩, hv⟩ := hw
  by_cases hl : n' = "PUSHLIB"
  · subst hl
    obtain ⟨v', rfl⟩ := hv.resolve_left fun h => h rfl
    by_cases hc : v' ∈ tbl <;> simp [build, hc, toJson, normP0]
  · -- `build` tests the value after wrapping it in `Val.str`, `normP0` before
    have hcond : (v.map Val.str == some (Val.str "0")) = (v == some "0") := by
      cases v with
      | none => rfl
      | some x => exact Bool.eq_iff_iff.mpr (by simp)
    by_cases hz : (p0 && n' == "PUSH" && v == some "0") = true
    · simp only [Bool.and_eq_true, beq_iff_eq] at hz
      obtain ⟨⟨rfl, rfl⟩, rfl⟩ := hz
      simp [build, toJson, normP0]
    · simp only [build, hl, beq_iff_eq, if_false, hcond, hz, Bool.false_eq_true]
      refine ⟨_, _, rfl, ?_⟩
      simp only [toJson, normP0, Option.some_beq_some, hz, Bool.false_eq_true, if_false]
      cases v <;> rfl

theorem normP0_wf (p0 : Bool) (j : JItem) (hw : j.wf = true) : (normP0 p0 j).wf = true := by
  unfold normP0
  split
  · simp only [JItem.wf, Bool.and_eq_true] at hw ⊢
    exact ⟨⟨⟨hw.1.1.1, rfl⟩, hw.1.2⟩, by simp⟩
  · exact hw

theorem normP0_idem (p0 : Bool) (j : JItem) : normP0 p0 (normP0 p0 j) = normP0 p0 j := by
  unfold normP0
  split <;> simp

theorem normP0_off : normP0 false = id := rfl

/-- **a list of items** (one code section): read in order, threading the PUSHLIB table, and written back -/
theorem buildAll_toJson (p0 : Bool) : ∀ (js : List JItem) (tbl : List String), (∀ j ∈ js, j.wf = true) →
    ∃ bs, buildAll p0 js tbl = some bs ∧ bs.map toJson = js.map (normP0 p0)
  | [], _, _ => ⟨[], rfl, rfl⟩
  | j :: js, tbl, hw => by
    obtain ⟨hwj, hw'⟩ := List.forall_mem_cons.mp hw
    obtain ⟨b, tbl', hb, hj⟩ := toJson_build p0 j tbl hwj
    obtain ⟨bs, hbs, hmap⟩ := buildAll_toJson p0 js tbl' hw'
    exact ⟨b :: bs, by simp [buildAll, hb, hbs], by simp [hj, hmap]⟩

/-- what was written is a fixed point: reading the written section again and writing it gives the same section -/
theorem roundtrip_stable (p0 : Bool) (js : List JItem) (tbl tbl' : List String) (hw : ∀ j ∈ js, j.wf = true) :
    ∃ bs bs', buildAll p0 js tbl = some bs ∧ buildAll p0 (bs.map toJson) tbl' = some bs' ∧ bs'.map toJson = bs.map toJson := by
  obtain ⟨bs, hbs, hmap⟩ := buildAll_toJson p0 js tbl hw
  have hw' : ∀ j ∈ bs.map toJson, j.wf = true := by
    rw [hmap]
    exact List.forall_mem_map.mpr fun x hx => normP0_wf p0 x (hw x hx)
  obtain ⟨bs', hbs', hmap'⟩ := buildAll_toJson p0 (bs.map toJson) tbl' hw'
  refine ⟨bs, bs', hbs, hbs', ?_⟩
  rw [hmap', hmap, List.map_map]
  exact List.map_congr_left fun j _ => normP0_idem p0 j

/-- with PUSH0 disabled the round trip is the identity -/
theorem buildAll_toJson_off (js : List JItem) (tbl : List String) (hw : ∀ j ∈ js, j.wf = true) :
    ∃ bs, buildAll false js tbl = some bs ∧ bs.map toJson = js := by
  simpa only [normP0_off, List.map_id] using buildAll_toJson false js tbl hw

/-- **blocks partition the section**: cutting a section into blocks and writing the blocks back one after the other gives the
    section (up to the PUSH0 spelling), whatever the block being filled and its table; no block is empty -/
theorem buildBlocks_flatten (p0 : Bool) : ∀ (js : List JItem) (cur : List Bytecode) (tbl : List String), (∀ j ∈ js, j.wf = true) →
    ∃ bl, buildBlocks p0 js cur tbl = some bl ∧ bl.flatten.map toJson = cur.map toJson ++ js.map (normP0 p0) ∧ ∀ b ∈ bl, b ≠ []
  | [], cur, tbl, _ => by
    cases cur with
    | nil => exact ⟨[], rfl, rfl, by simp⟩
    | cons c cs => exact ⟨[c :: cs], rfl, by simp, by simp⟩
  | j :: js, cur, tbl, hw => by
    obtain ⟨hwj, hw'⟩ := List.forall_mem_cons.mp hw
    obtain ⟨b, tbl', hb, hj⟩ := toJson_build p0 j tbl hwj
    simp only [buildBlocks, hb]
    cases isFinal (j.name.getD "")
    case true =>
      obtain ⟨bl, h1, h2, h3⟩ := buildBlocks_flatten p0 js [] [] hw'
      exact ⟨(cur ++ [b]) :: bl, by simp [h1], by simp [h2, hj], List.forall_mem_cons.mpr ⟨by simp, h3⟩⟩
    cases j.name == some "tag"
    case false =>
      obtain ⟨bl, h1, h2, h3⟩ := buildBlocks_flatten p0 js (cur ++ [b]) tbl' hw'
      exact ⟨bl, by simp [h1], by simp [h2, hj], h3⟩
    cases cur with
    | nil =>
      obtain ⟨bl, h1, h2, h3⟩ := buildBlocks_flatten p0 js [b] tbl' hw'
      exact ⟨bl, by simp [h1], by simp [h2, hj], h3⟩
    | cons c cs =>
      obtain ⟨bl, h1, h2, h3⟩ := buildBlocks_flatten p0 js [b] [] hw'
      exact ⟨(c :: cs) :: bl, by simp [h1], by simp [h2, hj], List.forall_mem_cons.mpr ⟨by simp, h3⟩⟩

/-- a whole code section: the blocks, written back in order, are the section -/
theorem blocks_roundtrip (p0 : Bool) (js : List JItem) (hw : ∀ j ∈ js, j.wf = true) :
    ∃ bl, buildBlocks p0 js [] [] = some bl ∧ bl.flatten.map toJson = js.map (normP0 p0) ∧ ∀ b ∈ bl, b ≠ [] := by
  obtain ⟨bl, h1, h2, h3⟩ := buildBlocks_flatten p0 js [] [] hw
  exact ⟨bl, h1, by simpa using h2, h3⟩

/-- C17, reader/writer side: with PUSH0 disabled, what is read and written back contains no item named PUSH0 that the input did not have -/
theorem no_new_push0_when_disabled (js : List JItem) (tbl : List String) (hw : ∀ j ∈ js, j.wf = true) :
    ∃ bs, buildAll false js tbl = some bs ∧ ∀ j ∈ bs.map toJson, j.name = some "PUSH0" → j ∈ js := by
  obtain ⟨bs, h1, h2⟩ := buildAll_toJson_off js tbl hw
  exact ⟨bs, h1, fun j hj _ => h2 ▸ hj⟩

/-- with PUSH0 enabled a zero push is written with the documented spelling, every other item as it was read -/
theorem normP0_enabled (j : JItem) :
    (j.name = some "PUSH" ∧ j.value = some "0" → (normP0 true j).name = some "PUSH0" ∧ (normP0 true j).value = none) ∧
    (¬ (j.name = some "PUSH" ∧ j.value = some "0") → normP0 true j = j) := by
  constructor
  · rintro ⟨h1, h2⟩; simp [normP0, h1, h2]
  · intro h; simp [normP0, h]

-- the premises are satisfiable and the PUSH0 case is really exercised
example : build true { begin_ := some 1, end_ := some 2, name := some "PUSH", source := some 0, value := some "0" } [] =
    some (⟨1, 2, 0, "PUSH0", none, none, none, some "0"⟩, []) := by decide
example : (build false { begin_ := some 1, end_ := some 2, name := some "PUSHLIB", source := some 0, value := some "ab" } ["cd"]).map (·.2) =
    some ["cd", "ab"] := by decide

end GasolVerif.Json
