/-
  C13: consumers of hash-ordered collections that do not depend on the iteration order.
  `sort_perm_invariant`: sorting (as `sorted(u_dict.keys())` does before identifiers are numbered)
  yields the same list for every iteration order of the same set of keys.
-/
namespace GasolVerif.Determinism

theorem sort_perm_invariant {α : Type} (le : α → α → Bool)
    (trans : ∀ a b c : α, le a b → le b c → le a c)
    (total : ∀ a b : α, le a b || le b a)
    (antisymm : ∀ a b : α, le a b → le b a → a = b)
    (l₁ l₂ : List α) (h : l₁.Perm l₂) : l₁.mergeSort le = l₂.mergeSort le := by
  apply List.Perm.eq_of_pairwise (le := fun a b => le a b = true)
  · intro a b _ _ hab hba; exact antisymm a b hab hba
  · exact List.pairwise_mergeSort trans total l₁
  · exact List.pairwise_mergeSort trans total l₂
  · exact (List.mergeSort_perm l₁ le).trans (h.trans (List.mergeSort_perm l₂ le).symm)

/-- numbering identifiers by position in the sorted key table does not depend on the iteration order -/
theorem numbering_perm_invariant {α : Type} [DecidableEq α] (le : α → α → Bool)
    (trans : ∀ a b c : α, le a b → le b c → le a c)
    (total : ∀ a b : α, le a b || le b a)
    (antisymm : ∀ a b : α, le a b → le b a → a = b)
    (l₁ l₂ : List α) (h : l₁.Perm l₂) (x : α) :
    (l₁.mergeSort le).idxOf x = (l₂.mergeSort le).idxOf x := by
  rw [sort_perm_invariant le trans total antisymm l₁ l₂ h]

/-- membership, size and maximum of a collection do not depend on the iteration order -/
theorem mem_perm_invariant {α : Type} (l₁ l₂ : List α) (h : l₁.Perm l₂) (x : α) : x ∈ l₁ ↔ x ∈ l₂ := h.mem_iff

theorem length_perm_invariant {α : Type} (l₁ l₂ : List α) (h : l₁.Perm l₂) : l₁.length = l₂.length := h.length_eq

theorem foldMax_perm_invariant (l₁ l₂ : List Nat) (h : l₁.Perm l₂) (b : Nat) :
    l₁.foldl max b = l₂.foldl max b :=
  h.foldl_eq' (fun x _ y _ z => Nat.max_right_comm z x y) b

end GasolVerif.Determinism
