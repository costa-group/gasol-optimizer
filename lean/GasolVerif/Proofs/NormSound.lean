/-
  Soundness of the normaliser: every rewrite preserves the value of the term in every state, under every
  well-formed environment.  A rule table returns an `Option Tm`; `Sound r v` says that every term it can
  return has the value `v`.  Each table is checked by cases along its definition (`fun_cases`), each leaf
  by the word identities of that table on top of the evaluation equations (`eval_simp`).
-/
import GasolVerif.Equiv
import GasolVerif.Proofs.WordLemmas
import GasolVerif.Proofs.MemLemmas
import GasolVerif.Proofs.EvalSimp
namespace GasolVerif
namespace Norm

variable (e : Env) (σ : St)

attribute [eval_simp] evalW UnOp.sem BinOp.sem Bool.and_eq_true decide_eq_true_eq beq_iff_eq implies_true true_and

/-- every term the partial rewrite `r` can return has the value `v` -/
def Sound (r : Option Tm) (v : Word) : Prop := ∀ t, r = some t → evalW e σ t = v

@[eval_simp] theorem sound_some (t : Tm) (v : Word) : Sound e σ (some t) v ↔ evalW e σ t = v := by
  simp [Sound]

@[eval_simp] theorem sound_none (v : Word) : Sound e σ none v := by simp [Sound]

@[eval_simp] theorem sound_ite (c : Prop) [Decidable c] (x y : Option Tm) (v : Word) :
    Sound e σ (if c then x else y) v ↔ (c → Sound e σ x v) ∧ (¬ c → Sound e σ y v) := by
  split <;> simp [*]

variable {e σ} in
theorem Sound.orElse {o : Option Tm} {f : Unit → Option Tm} {v : Word}
    (h₁ : Sound e σ o v) (h₂ : Sound e σ (f ()) v) : Sound e σ (o.orElse f) v := by
  cases o with
  | none => exact h₂
  | some x => exact h₁

variable {e σ} in
theorem Sound.getD {r : Option Tm} {t : Tm} {v : Word} (h : Sound e σ r v) (ht : evalW e σ t = v) :
    evalW e σ (r.getD t) = v := by
  cases r with
  | none => exact ht
  | some x => exact h x rfl

theorem eq_or_of_guard {α : Type} [DecidableEq α] {x p q : α}
    (h : (decide (x = p) || decide (x = q)) = true) : x = p ∨ x = q := by
  simpa using h

theorem isBoolOp_sem (op : BinOp) (h : isBoolOp op = true) (x y : Word) :
    ∃ b, op.sem x y = Word.ofBool b := by
  -- `h` leaves the five comparisons, and those are `ofBool (decide …)` by definition
  cases op <;> simp [isBoolOp] at h <;> exact ⟨_, rfl⟩

theorem isBool_eval (t : Tm) (h : isBool t = true) : ∃ b, evalW e σ t = Word.ofBool b := by
  unfold isBool at h
  split at h
  · exact isBoolOp_sem _ h _ _
  · exact ⟨_, rfl⟩
  · cases h

theorem mkIszero_sound (a : Tm) : evalW e σ (mkIszero a) = Word.iszero (evalW e σ a) := by
  fun_cases mkIszero a
  -- `ISZERO(ISZERO(op x y))` with `isBoolOp op`, the third clause: the one rule that needs its guard
  case case3 op x y h =>
    obtain ⟨b, hb⟩ := isBoolOp_sem op h (evalW e σ x) (evalW e σ y)
    simp only [evalW, UnOp.sem, hb, Word.iszero_iszero_ofBool]
  all_goals
    simp only [eval_simp, Word.iszero_iszero_iszero, Word.iszero_gt_zero, Word.iszero_lt_zero,
      Word.iszero_xor, Word.iszero_sub, Word.eq_comm' (evalW e σ _) (evalW e σ _)]

theorem mkNot_sound (a : Tm) : evalW e σ (mkNot a) = Word.not (evalW e σ a) := by
  fun_cases mkNot a <;> simp only [eval_simp, Word.not_not]

theorem mkUn_sound (op : UnOp) (a : Tm) : evalW e σ (mkUn op a) = op.sem (evalW e σ a) := by
  cases op
  · exact mkIszero_sound e σ a
  · exact mkNot_sound e σ a

theorem isAddrEnv_sound (we : e.wf) (t : Tm) (h : isAddrEnv t = true) :
    Word.and addrMask (evalW e σ t) = evalW e σ t := by
  unfold isAddrEnv at h
  split at h
  · exact (BitVec.and_comm _ _).trans (we.addr160 _ (by simpa [or_assoc] using h) σ.trace)
  · cases h

theorem andConst_sound (we : e.wf) (a b : Tm) :
    Sound e σ (andConst a b) (Word.and (evalW e σ a) (evalW e σ b)) := by
  -- the guards of the case at hand, brought to `Prop` form, are rewrite rules and side conditions (`*`)
  fun_cases andConst a b <;> simp only [eval_simp] at * <;>
    simp only [maxW, Word.and_zero_left, Word.and_max_left, Word.and_assoc_const, isAddrEnv_sound e σ we, *]

theorem andStruct_sound (a b : Tm) :
    Sound e σ (andStruct a b) (Word.and (evalW e σ a) (evalW e σ b)) := by
  fun_cases andStruct a b
  -- in the cases with a guard `x = p || x = q`
  any_goals rcases eq_or_of_guard ‹_› with rfl | rfl
  all_goals
    simp only [eval_simp, Word.and_self, Word.and_not_self, Word.not_and_self, Word.and_and_left,
      Word.and_and_right, Word.and_and_left', Word.and_and_right', Word.and_or_left, Word.and_or_right,
      Word.and_or_left', Word.and_or_right']

theorem andShlRule_sound (a b : Tm) :
    Sound e σ (andShlRule a b) (Word.and (evalW e σ a) (evalW e σ b)) := by
  -- `and_comm'` as an ordered rewrite brings `and y z` and `and z y` (chosen by `tmLe`) to one form
  fun_cases andShlRule a b <;> simp only [eval_simp] at * <;>
    simp only [apply_ite (evalW e σ), evalW, BinOp.sem, Word.and_shl_shl, Word.and_const_shl, Word.and_comm',
      ite_self, *]

theorem orConst_sound (a b : Tm) : Sound e σ (orConst a b) (Word.or (evalW e σ a) (evalW e σ b)) := by
  fun_cases orConst a b <;> simp only [eval_simp, maxW, Word.or_zero_left, Word.or_max_left, Word.or_assoc_const]

theorem orStruct_sound (a b : Tm) : Sound e σ (orStruct a b) (Word.or (evalW e σ a) (evalW e σ b)) := by
  fun_cases orStruct a b
  any_goals rcases eq_or_of_guard ‹_› with rfl | rfl
  all_goals
    simp only [eval_simp, maxW, Word.or_self, Word.or_not_self, Word.not_or_self, Word.or_or_left,
      Word.or_or_right, Word.or_or_left', Word.or_or_right', Word.or_and_left, Word.or_and_right,
      Word.or_and_left', Word.or_and_right']

theorem xorConst_sound (a b : Tm) : Sound e σ (xorConst a b) (Word.xor (evalW e σ a) (evalW e σ b)) := by
  fun_cases xorConst a b <;> simp only [eval_simp, Word.xor_zero_left]

theorem xorStruct_sound (a b : Tm) : Sound e σ (xorStruct a b) (Word.xor (evalW e σ a) (evalW e σ b)) := by
  fun_cases xorStruct a b <;>
    simp only [eval_simp, Word.xor_self, Word.xor_xor_left, Word.xor_xor_right, Word.xor_xor_left',
      Word.xor_xor_right']

theorem addRule_sound (a b : Tm) : Sound e σ (addRule a b) (Word.add (evalW e σ a) (evalW e σ b)) := by
  fun_cases addRule a b <;> simp only [eval_simp, Word.add_zero_left, Word.add_assoc_const]

theorem mulStruct_sound (a b : Tm) : Sound e σ (mulStruct a b) (Word.mul (evalW e σ a) (evalW e σ b)) := by
  fun_cases mulStruct a b <;> simp only [eval_simp, Word.mul_shl_one, Word.shl_one_mul]

theorem pow2?_eq_some (w : Word) (k : Nat) (h : pow2? w = some k) : k < 256 ∧ w = 1#256 <<< k := by
  simp only [pow2?, Option.ite_none_right_eq_some, Option.some.injEq, Bool.and_eq_true, decide_eq_true_eq,
    beq_iff_eq] at h
  obtain ⟨⟨⟨-, hk⟩, hw⟩, rfl⟩ := h
  exact ⟨hk, hw⟩

theorem mulConst_sound (a b : Tm) : Sound e σ (mulConst a b) (Word.mul (evalW e σ a) (evalW e σ b)) := by
  fun_cases mulConst a b
  any_goals obtain ⟨_, rfl⟩ := pow2?_eq_some _ _ ‹_›
  all_goals simp only [eval_simp, Word.mul_zero_left, Word.mul_one_left, Word.mul_twoPow, *]

theorem eq_one_of_isBool (t : Tm) (h : isBool t = true) : Word.eq 1#256 (evalW e σ t) = evalW e σ t := by
  obtain ⟨c, hc⟩ := isBool_eval e σ t h
  rw [hc, Word.eq_one_ofBool]

theorem eqRule_sound (a b : Tm) : Sound e σ (eqRule a b) (Word.eq (evalW e σ a) (evalW e σ b)) := by
  -- `EQ(1, x)` for a 0/1-valued `x` is the one rule that needs its guard (`eq_one_of_isBool`);
  -- `← eq_xor_const` only meets the folded constant `w ^^^ w'` of its own rule
  fun_cases eqRule a b <;> simp only [eval_simp] at * <;>
    simp only [mkIszero_sound, Word.eq_self, Word.eq_zero_left, Word.eq_xor_same, Word.eq_xor_same_right,
      Word.eq_comm' (Word.xor _ _), ← Word.eq_xor_const, eq_one_of_isBool e σ, *]

theorem commRule_sound (we : e.wf) (op : BinOp) (a b : Tm) :
    Sound e σ (commRule op a b) (op.sem (evalW e σ a) (evalW e σ b)) := by
  fun_cases commRule op a b
  · exact ((andStruct_sound e σ a b).orElse (andConst_sound e σ we a b)).orElse (andShlRule_sound e σ a b)
  · exact (orStruct_sound e σ a b).orElse (orConst_sound e σ a b)
  · exact (xorStruct_sound e σ a b).orElse (xorConst_sound e σ a b)
  · exact addRule_sound e σ a b
  · exact (mulStruct_sound e σ a b).orElse (mulConst_sound e σ a b)
  · exact eqRule_sound e σ a b
  · exact sound_none e σ _

theorem subRule_sound (a b : Tm) : Sound e σ (subRule a b) (Word.sub (evalW e σ a) (evalW e σ b)) := by
  fun_cases subRule a b <;> simp only [eval_simp, Word.sub_self, Word.sub_zero]

theorem divRule_sound (a b : Tm) : Sound e σ (divRule a b) (Word.div (evalW e σ a) (evalW e σ b)) := by
  fun_cases divRule a b
  any_goals obtain ⟨_, rfl⟩ := pow2?_eq_some _ _ ‹_›
  all_goals
    simp only [eval_simp, Word.div_zero, Word.div_one, Word.div_shl_one, Word.zero_div, Word.div_twoPow, *]

theorem sdivRule_sound (a b : Tm) : Sound e σ (sdivRule a b) (Word.sdiv (evalW e σ a) (evalW e σ b)) := by
  fun_cases sdivRule a b <;> simp only [eval_simp, Word.sdiv_zero, Word.sdiv_one, Word.zero_sdiv]

theorem modRule_sound (a b : Tm) : Sound e σ (modRule a b) (Word.mod (evalW e σ a) (evalW e σ b)) := by
  fun_cases modRule a b
  any_goals rcases eq_or_of_guard ‹_› with rfl | rfl
  all_goals simp only [eval_simp, Word.mod_self, Word.mod_zero, Word.mod_one]

theorem expRule_sound (a b : Tm) : Sound e σ (expRule a b) (Word.exp (evalW e σ a) (evalW e σ b)) := by
  -- for a constant exponent other than 0 and 1 the base is matched a second time, and that match is still
  -- in the goal: on a constant base it reduces to its `if`, which the guard of the case at hand (`*`) decides
  fun_cases expRule a b <;>
    simp only [eval_simp, mkIszero_sound, Word.exp_zero, Word.exp_one, Word.one_exp, Word.zero_exp, Word.two_exp,
      false_implies, *]

theorem gtRule_sound (a b : Tm) : Sound e σ (gtRule a b) (Word.gt (evalW e σ a) (evalW e σ b)) := by
  fun_cases gtRule a b <;>
    simp only [eval_simp, mkIszero_sound, Word.gt_self, Word.gt_zero_left, Word.gt_one_left, Word.gt_zero]

theorem ltRule_sound (a b : Tm) : Sound e σ (ltRule a b) (Word.lt (evalW e σ a) (evalW e σ b)) := by
  fun_cases ltRule a b <;>
    simp only [eval_simp, mkIszero_sound, Word.lt_self, Word.lt_zero_right, Word.lt_one_right, Word.lt_zero_left]

theorem shiftRule_sound (a b : Tm) :
    Sound e σ (shiftRule a b) (Word.shl (evalW e σ a) (evalW e σ b)) ∧
    Sound e σ (shiftRule a b) (Word.shr (evalW e σ a) (evalW e σ b)) := by
  fun_cases shiftRule a b <;>
    simp only [eval_simp, Word.shl_zero_left, Word.shr_zero_left, Word.shl_zero_right, Word.shr_zero_right,
      Word.shl_big, Word.shr_big, *]

theorem sarRule_sound (a b : Tm) : Sound e σ (sarRule a b) (Word.sar (evalW e σ a) (evalW e σ b)) := by
  fun_cases sarRule a b <;> simp only [eval_simp, Word.sar_zero_left]

theorem selfZeroRule_sound {f : Word → Word → Word} (hf : ∀ x, f x x = 0#256) (a b : Tm) :
    Sound e σ (selfZeroRule a b) (f (evalW e σ a) (evalW e σ b)) := by
  fun_cases selfZeroRule a b
  · rw [sound_some, ‹a = b›, hf]; rfl
  · exact sound_none e σ _

theorem ncRule_sound (op : BinOp) (a b : Tm) :
    Sound e σ (ncRule op a b) (op.sem (evalW e σ a) (evalW e σ b)) := by
  fun_cases ncRule op a b
  · exact subRule_sound e σ a b
  · exact divRule_sound e σ a b
  · exact sdivRule_sound e σ a b
  · exact modRule_sound e σ a b
  · exact expRule_sound e σ a b
  · exact gtRule_sound e σ a b
  · exact ltRule_sound e σ a b
  · exact selfZeroRule_sound e σ Word.sgt_self a b
  · exact selfZeroRule_sound e σ Word.slt_self a b
  · exact (shiftRule_sound e σ a b).1
  · exact (shiftRule_sound e σ a b).2
  · exact sarRule_sound e σ a b
  · exact sound_none e σ _

theorem mkBin_sound (we : e.wf) (op : BinOp) (a b : Tm) :
    evalW e σ (mkBin op a b) = op.sem (evalW e σ a) (evalW e σ b) := by
  unfold mkBin
  split
  · rfl                       -- two constants: folded
  · split
    · rename_i hc             -- commutative: the rules see the arguments in `tmLe` order
      simp only
      split
      · exact (commRule_sound e σ we op a b).getD rfl
      · rw [BinOp.comm_sound op hc]; exact (commRule_sound e σ we op b a).getD rfl
    · exact (ncRule_sound e σ op a b).getD rfl

theorem mkTer_sound (op : TerOp) (a b c : Tm) :
    evalW e σ (mkTer op a b c) = op.sem (evalW e σ a) (evalW e σ b) (evalW e σ c) := by
  unfold mkTer
  split <;> rfl

theorem mkEnv1_sound (we : e.wf) (n : String) (a : Tm) :
    evalW e σ (mkEnv1 n a) = e.env1 n σ.trace (evalW e σ a) := by
  fun_cases mkEnv1 n a <;> simp only [eval_simp] at * <;> simp only [we.selfbal, *]

theorem splitAddr_sound (t : Tm) :
    evalW e σ t = evalW e σ (splitAddr t).1 + (splitAddr t).2 := by
  unfold splitAddr
  split <;> simp [evalW, BinOp.sem, Word.add, BitVec.add_comm]

/-- two offsets from one base, with `d = ob - oa` (mod 2^256): `sa ≤ d` keeps `[oa, oa+sa)` below `ob`, and
    `d + sb ≤ 2^256` keeps `[ob, ob+sb)` from coming round to `oa` again -/
theorem disj_of_offset (base oa ob : Word) {sa sb : Nat} (h1 : sa ≤ (ob - oa).toNat)
    (h2 : (ob - oa).toNat + sb ≤ 2 ^ 256) : Disj (base + oa).toNat sa (base + ob).toNat sb := by
  rw [BitVec.toNat_sub] at h1 h2
  rw [Disj, BitVec.toNat_add, BitVec.toNat_add]
  omega

theorem disjoint_sound (a : Tm) (sa : Nat) (b : Tm) (sb : Nat) (h : disjoint a sa b sb = true) :
    Disj (evalW e σ a).toNat sa (evalW e σ b).toNat sb := by
  unfold disjoint at h
  rw [Bool.or_eq_true] at h
  rcases h with h | h
  · split at h
    · have := of_decide_eq_true h; exact this
    · cases h
  · simp only [Bool.and_eq_true, beq_iff_eq, decide_eq_true_eq] at h
    rw [splitAddr_sound e σ a, splitAddr_sound e σ b, h.1]
    exact disj_of_offset _ _ _ h.2.1 h.2.2

theorem keysDiffer_sound (a b : Tm) (h : keysDiffer a b = true) : evalW e σ a ≠ evalW e σ b := by
  unfold keysDiffer at h
  simp only [Bool.and_eq_true, beq_iff_eq, bne_iff_ne, ne_eq] at h
  rw [splitAddr_sound e σ a, splitAddr_sound e σ b, h.1]
  exact fun heq => h.2 ((BitVec.add_right_inj _).mp heq)

theorem memFor_sound (a : Tm) (sz : Nat) (m : Tm) (i : Nat) (hi : i < sz) :
    evalM e σ (memFor a sz m) ((evalW e σ a).toNat + i) = evalM e σ m ((evalW e σ a).toNat + i) := by
  fun_induction memFor a sz m with
  | case1 m b v hd ih =>      -- a word store off the range: skipped
    rw [ih, evalM, writeWord_of_disj _ _ (disjoint_sound e σ a sz b 32 hd) i hi]
  | case3 m b v hd ih =>      -- a byte store off the range: skipped
    rw [ih, evalM, writeByte_of_disj _ _ (disjoint_sound e σ a sz b 1 hd) i hi]
  | case2 m b v _ ih => simp only [evalM, Mem.writeWord, ih]    -- a word store kept
  | case4 m b v _ ih => simp only [evalM, Mem.writeByte, ih]    -- a byte store kept
  | case5 => rfl                                                -- not a store

theorem mkMload_sound (m a : Tm) :
    evalW e σ (mkMload m a) = (evalM e σ m).readWord (evalW e σ a).toNat := by
  rw [← Mem.readWord_congr _ _ _ (memFor_sound e σ a 32 m)]
  -- `*`: what `memFor a 32 m` is in the case at hand, and `a = b` where the load meets a store at its address
  fun_cases mkMload m a <;> simp only [evalW, evalM, Mem.readWord_writeWord_same, *]

theorem constLen?_eq_some {t : Tm} {n : Nat} (h : constLen? t = some n) : ∃ c, t = .const c ∧ c.toNat = n := by
  unfold constLen? at h
  split at h
  · exact ⟨_, rfl, Option.some.inj h⟩
  · cases h

theorem mkKeccak_sound (we : e.wf) (m off len : Tm) :
    evalW e σ (mkKeccak m off len) =
      e.keccak (evalW e σ len).toNat (fun i => (evalM e σ m) ((evalW e σ off).toNat + i)) := by
  unfold mkKeccak
  split
  · obtain ⟨c, rfl, rfl⟩ := constLen?_eq_some ‹_›
    exact we.keccak_ext _ _ _ (memFor_sound e σ off _ m)
  · rfl

theorem killMstore_outside (a : Tm) (m : Tm) (j : Nat)
    (hj : j < (evalW e σ a).toNat ∨ (evalW e σ a).toNat + 32 ≤ j) :
    evalM e σ (killMstore a m) j = evalM e σ m j := by
  fun_induction killMstore a m with
  | case1 m w ih => rw [ih, evalM, Mem.writeWord_out _ _ _ _ hj]    -- the word store at `a`: removed
  | case2 m b w _ ih => simp only [evalM, Mem.writeWord, ih]        -- another word store
  | case3 m b w ih => simp only [evalM, Mem.writeByte, ih]          -- a byte store
  | case4 => rfl                                                    -- not a store

theorem insMstore_sound (a v m : Tm) :
    evalM e σ (insMstore a v m) = (evalM e σ m).writeWord (evalW e σ a).toNat (evalW e σ v) := by
  fun_induction insMstore a v m with
  | case1 => simp only [evalM, writeWord_overwrite]     -- on a word store at `a`: replaces it
  | case2 m b w _ hd ih =>                              -- below a disjoint word store
    have := disjoint_sound e σ a 32 b 32 (Bool.and_eq_true_iff.mp hd).1
    simp only [evalM, ih, writeWord_comm _ _ _ _ _ this]
  | case4 m b w hd ih =>                                -- below a disjoint byte store
    have := disjoint_sound e σ a 32 b 1 (Bool.and_eq_true_iff.mp hd).1
    simp only [evalM, ih, writeWord_writeByte_comm _ _ _ _ _ this]
  | case3 | case5 | case6 => rfl                        -- put on top (of a store that stays, or of anything else)

theorem insMstore8_sound (a v m : Tm) :
    evalM e σ (insMstore8 a v m) = (evalM e σ m).writeByte (evalW e σ a).toNat (evalW e σ v) := by
  fun_induction insMstore8 a v m with
  | case1 => simp only [evalM, writeByte_overwrite]     -- on a byte store at `a`: replaces it
  | case2 m b w _ hd ih =>                              -- below a disjoint byte store
    have := disjoint_sound e σ a 1 b 1 (Bool.and_eq_true_iff.mp hd).1
    simp only [evalM, ih, writeByte_comm _ _ _ _ _ this]
  | case4 m b w hd ih =>                                -- below a disjoint word store
    have := (disjoint_sound e σ a 1 b 32 (Bool.and_eq_true_iff.mp hd).1).symm
    simp only [evalM, ih, writeWord_writeByte_comm _ _ _ _ _ this]
  | case3 | case5 | case6 => rfl                        -- put on top

theorem mkMstore8_sound (m a v : Tm) :
    evalM e σ (mkMstore8 m a v) = (evalM e σ m).writeByte (evalW e σ a).toNat (evalW e σ v) :=
  insMstore8_sound e σ a v m

theorem mkMstore_sound (m a v : Tm) :
    evalM e σ (mkMstore m a v) = (evalM e σ m).writeWord (evalW e σ a).toNat (evalW e σ v) := by
  unfold mkMstore
  split
  · rename_i hv
    rw [hv, mkMload_sound, Mem.writeWord_readWord]
  · rw [insMstore_sound]
    exact writeWord_congr_outside _ _ _ _ (killMstore_outside e σ a m)

theorem stoFor_sound (k s : Tm) : evalS e σ (stoFor k s) (evalW e σ k) = evalS e σ s (evalW e σ k) := by
  fun_induction stoFor k s with
  | case1 s j v hd ih =>      -- a store to another key: skipped
    rw [ih, evalS, stoWrite_of_ne _ _ (keysDiffer_sound e σ k j hd)]
  | case2 s j v _ ih => simp only [evalS, Sto.write, ih]      -- a store kept
  | case3 => rfl                                              -- not a store

theorem mkSload_sound (s k : Tm) : evalW e σ (mkSload s k) = evalS e σ s (evalW e σ k) := by
  rw [← stoFor_sound]
  -- as in `mkMload_sound`
  fun_cases mkSload s k <;> simp only [evalW, evalS, Sto.write, if_true, *]

theorem killSstore_outside (k s : Tm) (x : Word) (hx : x ≠ evalW e σ k) :
    evalS e σ (killSstore k s) x = evalS e σ s x := by
  fun_induction killSstore k s with
  | case1 s w ih => rw [ih, evalS, stoWrite_of_ne _ _ hx]     -- the store at `k`: removed
  | case2 s j w _ ih => simp only [evalS, Sto.write, ih]      -- another store
  | case3 => rfl                                              -- not a store

theorem insSstore_sound (k v s : Tm) :
    evalS e σ (insSstore k v s) = (evalS e σ s).write (evalW e σ k) (evalW e σ v) := by
  fun_induction insSstore k v s with
  | case1 => simp only [evalS, stoWrite_overwrite]      -- on a store at `k`: replaces it
  | case2 s j w _ hd ih =>                              -- below a store at another key
    have := keysDiffer_sound e σ k j (Bool.and_eq_true_iff.mp hd).1
    simp only [evalS, ih, stoWrite_comm _ _ _ _ _ this]
  | case3 | case4 => rfl                                -- put on top

theorem mkSstore_sound (s k v : Tm) :
    evalS e σ (mkSstore s k v) = (evalS e σ s).write (evalW e σ k) (evalW e σ v) := by
  unfold mkSstore
  split
  · rename_i hv
    rw [hv, mkSload_sound, stoWrite_self]
  · rw [insSstore_sound]
    exact stoWrite_congr_outside _ _ _ _ (killSstore_outside e σ k s)

end Norm

open Norm in
theorem norm_sound (e : Env) (we : e.wf) (σ : St) (t : Tm) :
    evalW e σ (normW t) = evalW e σ t ∧ evalM e σ (normM t) = evalM e σ t ∧
      evalS e σ (normS t) = evalS e σ t := by
  -- `normW (.bin op a b)` is `mkBin op (normW a) (normW b)` by definition, and so on: the smart constructor's lemma
  -- applies as it stands
  induction t with
  | env1 n a iha => exact ⟨(mkEnv1_sound e σ we n _).trans (by rw [evalW, iha.1]), rfl, rfl⟩
  | un op a iha => exact ⟨(mkUn_sound e σ op _).trans (by rw [evalW, iha.1]), rfl, rfl⟩
  | bin op a b iha ihb => exact ⟨(mkBin_sound e σ we op _ _).trans (by rw [evalW, iha.1, ihb.1]), rfl, rfl⟩
  | ter op a b c iha ihb ihc =>
    exact ⟨(mkTer_sound e σ op _ _ _).trans (by rw [evalW, iha.1, ihb.1, ihc.1]), rfl, rfl⟩
  | mload m a ihm iha => exact ⟨(mkMload_sound e σ _ _).trans (by rw [evalW, ihm.2.1, iha.1]), rfl, rfl⟩
  | sload s k ihs ihk => exact ⟨(mkSload_sound e σ _ _).trans (by rw [evalW, ihs.2.2, ihk.1]), rfl, rfl⟩
  | keccak m off len ihm iho ihl =>
    exact ⟨(mkKeccak_sound e σ we _ _ _).trans (by rw [evalW, ihm.2.1, iho.1, ihl.1]), rfl, rfl⟩
  | mstore m a v ihm iha ihv =>
    exact ⟨rfl, (mkMstore_sound e σ _ _ _).trans (by rw [evalM, ihm.2.1, iha.1, ihv.1]), rfl⟩
  | mstore8 m a v ihm iha ihv =>
    exact ⟨rfl, (mkMstore8_sound e σ _ _ _).trans (by rw [evalM, ihm.2.1, iha.1, ihv.1]), rfl⟩
  | sstore s k v ihs ihk ihv =>
    exact ⟨rfl, rfl, (mkSstore_sound e σ _ _ _).trans (by rw [evalS, ihs.2.2, ihk.1, ihv.1])⟩
  | _ => exact ⟨rfl, rfl, rfl⟩

theorem norm1_sound : NormSound ⟨normW, normM, normS⟩ where
  w e σ t we := (norm_sound e we σ t).1
  m e σ t we := (norm_sound e we σ t).2.1
  s e σ t we := (norm_sound e we σ t).2.2

theorem norm3_sound : NormSound norm3 := (norm1_sound.comp norm1_sound).comp norm1_sound

/-- **The validator is sound**: whenever the executable check `equiv norm3 B B'` answers `true`,
    `B'` is observationally equivalent to `B` on every state and every well-formed environment. -/
theorem equiv_norm3_sound (B B' : List Instr) (h : equiv norm3 B B' = true) : ObsEq B B' :=
  equiv_sound norm3_sound B B' h

end GasolVerif
