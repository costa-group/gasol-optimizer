/-
  C02: the symbolic evaluation of a specification under a schedule (`evalSpec`, load results bound to
  `mload/sload/keccak` terms) is simulated by the concrete scheduled run with opaque load symbols (`runSched`);
  with `checked_schedules_agree` this gives `spec_schedule_independent`.
-/
import GasolVerif.Proofs.SpecSound
import GasolVerif.Proofs.EffOn
import GasolVerif.Proofs.TermOf
namespace GasolVerif.Spec

variable (e : GasolVerif.Env) (σ₀ : St)

/-- the loaded values `lv` are the values of the terms the symbolic environment binds the load results to -/
def Agree (env : Env) (lv : String → Option Word) : Prop :=
  ∀ o t, env.lookup o = some t → lv o = some (evalW e σ₀ t)

theorem lookup_map_mk {β : Type} (g : String → β) (l : List String) (o : String) :
    (l.map fun x => (x, g x)).lookup o = if o ∈ l then some (g o) else none := by
  induction l with
  | nil => rfl
  | cons x l ih =>
    simp only [List.map_cons, List.lookup_cons, ih, List.mem_cons]
    cases h : o == x
    · simp [show o ≠ x by simpa using h]
    · simp [show o = x by simpa using h]

theorem opaqueEnv_eq (S : Spec) : opaqueEnv S = (loadOuts S).map fun o => (o, Tm.sym (loadSym o)) :=
  (List.map_filterMap ..).symm

theorem lookup_opaqueEnv (S : Spec) (o : String) (h : o ∈ loadOuts S) :
    (opaqueEnv S).lookup o = some (Tm.sym (loadSym o)) := by
  rw [opaqueEnv_eq, lookup_map_mk, if_pos h]

theorem lookup_opaqueEnv_none (S : Spec) (o : String) (h : o ∉ loadOuts S) : (opaqueEnv S).lookup o = none := by
  rw [opaqueEnv_eq, lookup_map_mk, if_neg h]

/-- value of a pure instruction on argument values -/
def pureVal (e : GasolVerif.Env) (tr : List Event) (u : UInstr) : List Word → Option Word
  | [] =>
    if u.op == "PUSH" || u.op == "PUSH0" then (parseHex? u.sym).map fun n => BitVec.ofNat 256 n
    else if u.op.startsWith "PUSH" then some (e.sym u.sym)
    else some (e.env0 (if u.op == "DIFFICULTY" then "PREVRANDAO" else u.op) tr)
  | [a] =>
    match UnOp.ofName? u.op with
    | some o => some (o.sem a)
    | none => some (e.env1 u.op tr a)
  | [a, b] => (BinOp.ofName? u.op).map fun o => o.sem a b
  | [a, b, c] => (TerOp.ofName? u.op).map fun o => o.sem a b c
  | _ => none

theorem pureVal_map (σ : St) (u : UInstr) (ts : List Tm) :
    pureVal e σ.trace u (ts.map (evalW e σ)) = (pureTm u ts).map (evalW e σ) := by
  unfold pureVal pureTm
  rcases ts with _ | ⟨a, _ | ⟨b, _ | ⟨c, _ | _⟩⟩⟩
  · simp only [List.map_nil, apply_ite (Option.map (evalW e σ)), Option.map_map]; rfl
  · simp only [List.map_cons, List.map_nil]
    cases UnOp.ofName? u.op <;> rfl
  · simp only [List.map_cons, List.map_nil, Option.map_map]; rfl
  · simp only [List.map_cons, List.map_nil, Option.map_map]; rfl
  · rfl

theorem pureTm_val (σ : St) (u : UInstr) (ts : List Tm) (t : Tm) (h : pureTm u ts = some t) :
    pureVal e σ.trace u (ts.map (evalW e σ)) = some (evalW e σ t) ∧ (ts.all isPure = true → isPure t = true) := by
  refine ⟨by rw [pureVal_map, h]; rfl, fun hp => ?_⟩
  unfold pureTm at h
  -- by the number of operands: none (a constant, a symbol or an `env0`), one, two, three, more
  rcases ts with _ | ⟨a, _ | ⟨b, _ | ⟨c, _ | _⟩⟩⟩ <;> simp only at h
  · split at h
    · obtain ⟨n, -, rfl⟩ := Option.map_eq_some_iff.1 h; rfl
    · split at h <;> cases h <;> rfl
  · split at h <;> cases h <;> simpa [isPure] using hp
  · obtain ⟨o, -, rfl⟩ := Option.map_eq_some_iff.1 h; simpa [isPure] using hp
  · obtain ⟨o, -, rfl⟩ := Option.map_eq_some_iff.1 h; simpa [isPure, Bool.and_assoc] using hp
  · cases h

theorem pureVal_withLoads (tr : List Event) (lv : String → Option Word) (u : UInstr) (hu : lv u.sym = none) (ws : List Word) :
    pureVal (withLoads e lv) tr u ws = pureVal e tr u ws := by
  -- `pureVal` reads the environment through `env0`, `env1` and the symbol of `u` only
  have hs : (withLoads e lv).sym u.sym = e.sym u.sym := by simp [withLoads, hu]
  unfold pureVal
  rw [hs]; rfl

/-- the symbolic environment `env` and the loaded values `lv` describe the same loads, all of them load results of `S` -/
structure Sim (S : Spec) (env : Env) (lv : String → Option Word) : Prop where
  agree : Agree e σ₀ env lv
  dom : ∀ o t, env.lookup o = some t → o ∈ loadOuts S
  lvdom : ∀ s w, lv s = some w → s ∈ loadOuts S

theorem namesOk_iff (S : Spec) : namesOk S = true ↔
    (∀ o ∈ loadOuts S, o ∉ S.src) ∧ (∀ u ∈ S.instrs, u.sym ∉ loadOuts S) ∧
      ∀ o ∈ loadOuts S, ∃ u, S.producer? o = some u ∧ u.isEffect = true := by
  simp only [namesOk, Bool.and_eq_true, List.all_eq_true, Bool.not_eq_true', List.contains_eq_mem, decide_eq_false_iff_not, and_assoc]
  refine and_congr_right fun _ => and_congr_right fun _ => forall₂_congr fun o _ => ?_
  cases S.producer? o <;> simp

/-- a load result is produced by a memory/storage operation -/
theorem not_mem_loadOuts {S : Spec} (hn : namesOk S = true) {v : String} {u : UInstr} (hp : S.producer? v = some u)
    (he : u.isEffect = false) : v ∉ loadOuts S := fun hv => by
  obtain ⟨u', hp', he'⟩ := ((namesOk_iff S).1 hn).2.2 v hv
  rw [hp] at hp'; cases hp'; rw [he] at he'; cases he'

/-- **substitution**: a term built with the scheduled loads bound to their symbolic values evaluates like the
    term built with opaque load symbols, in the environment that reads the loaded values -/
theorem termOf_sim (S : Spec) (hn : namesOk S = true) (env : Env) (lv : String → Option Word) (hs : Sim e σ₀ S env lv) :
    ∀ fuel : Nat,
      (∀ v t, termOfVar S env fuel v = some t →
        ∃ t', termOfVar S (opaqueEnv S) fuel v = some t' ∧ isPure t' = true ∧
          evalW (withLoads e lv) σ₀ t' = evalW e σ₀ t) ∧
      (∀ as ts, termsOf S env fuel as = some ts →
        ∃ ts', termsOf S (opaqueEnv S) fuel as = some ts' ∧ ts'.all isPure = true ∧
          ts'.map (evalW (withLoads e lv) σ₀) = ts.map (evalW e σ₀)) := by
  obtain ⟨hsrc, hsym, -⟩ := (namesOk_iff S).1 hn
  apply termOf_induct S env
  case bound =>
    intro f v t hl
    exact ⟨_, termOfVar_bound (lookup_opaqueEnv S v (hs.dom v _ hl)), rfl, by simp [evalW, withLoads, loadSym_eq, hs.agree v _ hl]⟩
  case src =>
    intro f v i _ hi
    have hv : v ∉ loadOuts S := fun hv => by rw [List.idxOf?_eq_none_iff.2 (hsrc v hv)] at hi; cases hi
    exact ⟨_, termOfVar_src (lookup_opaqueEnv_none S v hv) hi, rfl, by simp [evalW]⟩
  case pure =>
    intro f v u rs t _ hi hp he _ ⟨rs', h1, h2, h3⟩ ht
    -- a result of a pure instruction is no load result, so the opaque side takes the same step on the related operands
    have hlvn : lv u.sym = none := Option.eq_none_iff_forall_ne_some.2 fun w h =>
      hsym u (List.mem_of_find?_eq_some hp) (hs.lvdom _ _ h)
    have hval : (pureTm u rs').map (evalW (withLoads e lv) σ₀) = some (evalW e σ₀ t) := by
      rw [← pureVal_map, pureVal_withLoads e σ₀.trace lv u hlvn, h3, pureVal_map, ht]; rfl
    obtain ⟨t', ht', hev⟩ := Option.map_eq_some_iff.1 hval
    exact ⟨t', termOfVar_pure (lookup_opaqueEnv_none S v (not_mem_loadOuts hn hp he)) hi hp he h1 ht',
      (pureTm_val e σ₀ u rs' t' ht').2 h2, hev⟩
  case nil => exact fun f => ⟨[], by simp only [termsOf], rfl, rfl⟩
  case const =>
    intro f n as ts _ ⟨ts', h1, h2, h3⟩
    exact ⟨.const (BitVec.ofNat 256 n) :: ts', termsOf_const h1, by simp [isPure, h2], by simp [evalW, h3]⟩
  case var =>
    intro f v as t ts _ ⟨t', g1, g2, g3⟩ _ ⟨ts', h1, h2, h3⟩
    exact ⟨t' :: ts', termsOf_var g1 h1, by simp [g2, h2], by simp [g3, h3]⟩

/-- the symbolic evaluation state `st` denotes the concrete scheduled state `c` -/
structure Inv (S : Spec) (st : EvalSt) (c : CSt) : Prop where
  mem : evalM e σ₀ st.mem = c.mem
  sto : evalS e σ₀ st.sto = c.sto
  sim : Sim e σ₀ S st.env c.lv

theorem sim_setLv (S : Spec) (env : Env) (lv : String → Option Word) (hs : Sim e σ₀ S env lv)
    (o : String) (t : Tm) (w : Word) (ho : o ∈ loadOuts S) (hw : evalW e σ₀ t = w) :
    Sim e σ₀ S ((o, t) :: env) (setLv lv o w) := by
  have both : ∀ o' t', ((o, t) :: env).lookup o' = some t' → setLv lv o w o' = some (evalW e σ₀ t') ∧ o' ∈ loadOuts S := by
    intro o' t' h
    rw [List.lookup_cons] at h
    cases hb : o' == o <;> rw [hb] at h
    · exact ⟨by simpa [setLv, loadSym_eq, ne_of_beq_false hb] using hs.agree o' t' h, hs.dom o' t' h⟩ -- an older binding
    · cases h; cases eq_of_beq hb; exact ⟨by simp [setLv, loadSym_eq, hw], ho⟩ -- the new one
  exact ⟨fun o' t' h => (both o' t' h).1, fun o' t' h => (both o' t' h).2,
    fun s w' h => (lv_setLv h).elim (hs.lvdom s w') (· ▸ ho)⟩

theorem out_mem_loadOuts (S : Spec) (u : UInstr) (o : String) (hu : u ∈ S.instrs) (he : u.isEffect = true)
    (ho : u.out = some o) : o ∈ loadOuts S :=
  List.mem_filterMap.2 ⟨u, List.mem_filter.2 ⟨hu, he⟩, ho⟩

/-- what the operation `u` does to the concrete scheduled state, given the values of its arguments -/
def actVal (e : GasolVerif.Env) (u : UInstr) (ws : List Word) (c : CSt) : CSt :=
  opCases u.op ws u.out
    (fun a v => { c with mem := c.mem.writeWord a.toNat v })
    (fun a v => { c with mem := c.mem.writeByte a.toNat v })
    (fun k v => { c with sto := c.sto.write k v })
    (fun o a => { c with lv := setLv c.lv o (c.mem.readWord a.toNat) })
    (fun o k => { c with lv := setLv c.lv o (c.sto k) })
    (fun o off len => { c with lv := setLv c.lv o (e.keccak len.toNat fun i => c.mem (off.toNat + i)) })
    c

theorem actWith_effOn (ρ : Tm → Word) (u : UInstr) (args : List Tm) (c : CSt) :
    actWith e ρ (effOn u args) c = actVal e u (args.map ρ) c := by
  rw [actVal, opCases_map]
  exact opCases_comp (fun f => actWith e ρ f c)

theorem Eff.step_sim {S : Spec} {st st' : EvalSt} {c : CSt} {id : String} {f : Eff} (hi : Inv e σ₀ S st c)
    (ho : ∀ o, f.out? = some o → o ∈ loadOuts S) (h : f.step id st = some st') :
    Inv e σ₀ S st' (actWith e (evalW e σ₀) f c) := by
  cases f <;> cases h
  case wmem | bmem => exact ⟨by simp [actWith, evalM, hi.mem], hi.sto, hi.sim⟩
  case wsto => exact ⟨hi.mem, by simp [actWith, evalS, hi.sto], hi.sim⟩
  case rmem o _ | hmem o _ _ => exact ⟨hi.mem, hi.sto, sim_setLv e σ₀ S _ _ hi.sim o _ _ (ho o rfl) (by simp [evalW, hi.mem])⟩
  case rsto o _ => exact ⟨hi.mem, hi.sto, sim_setLv e σ₀ S _ _ hi.sim o _ _ (ho o rfl) (by simp [evalW, hi.sto])⟩

theorem stepEffect_sim (S : Spec) (hn : namesOk S = true) (st st' : EvalSt) (c : CSt) (u : UInstr)
    (hu : u ∈ S.instrs) (hi : Inv e σ₀ S st c) (h : stepEffect S st u = some st') :
    Inv e σ₀ S st' (actEff e σ₀ (effOf S u) c) := by
  obtain ⟨args, ha, h⟩ := stepEffect_some.1 h
  obtain ⟨args', g1, -, g3⟩ := (termOf_sim e σ₀ S hn st.env c.lv hi.sim (fuelOf S)).2 u.inp args ha
  obtain ⟨he, hout, -⟩ := effOn_spec u args fun hs => by rw [hs] at h; cases h
  -- the opaque argument terms, read in the loaded values, have the values of the symbolic ones
  rw [effOf_eq, argsTm, g1, Option.elim_some, ← actWith_eq, actWith_effOn, g3, ← actWith_effOn]
  exact Eff.step_sim e σ₀ hi (fun o ho => out_mem_loadOuts S u o hu he (hout o ho)) h

/-- the symbolic evaluation of the operations under a schedule is simulated by the concrete scheduled run -/
theorem runSchedule_sim (S : Spec) (hn : namesOk S = true) :
    ∀ (L : List String) (st st' : EvalSt) (c : CSt), Inv e σ₀ S st c → runSchedule S L st = some st' →
      Inv e σ₀ S st' (runSched e σ₀ S L c)
  | [], st, st', c, hi, h => by cases h; exact hi
  | id :: ids, st, st', c, hi, h => by
    obtain ⟨u, st1, hf, hs, h⟩ := runSchedule_cons_some.1 h
    have h1 := stepEffect_sim e σ₀ S hn st st1 c u (List.mem_of_find?_eq_some hf) hi hs
    exact runSchedule_sim S hn ids st1 st' _ (by simpa only [effId, hf] using h1) h

def initC : CSt := { lv := fun _ => none, mem := σ₀.mem, sto := σ₀.sto }

theorem inv_init (S : Spec) : Inv e σ₀ S {} (initC σ₀) :=
  ⟨rfl, rfl, nofun, nofun, nofun⟩

/-- what a symbolic state denotes on `σ₀`: stack words (top first), memory, storage -/
def denote (X : SymSt) : List Word × Mem × Sto :=
  (X.stk.map (evalW e σ₀), evalM e σ₀ X.mem, evalS e σ₀ X.sto)

theorem conc_of_denote {X : SymSt} {σ : St} {ws : List Word} {m : Mem} {s : Sto} (hd : denote e σ₀ X = (ws, m, s))
    (hs : σ.stack = ws ++ σ₀.stack.drop X.base) (hm : σ.mem = m) (hst : σ.sto = s) (ht : σ.trace = σ₀.trace) :
    σ = X.conc e σ₀ := by
  cases hd; cases σ; cases hs; cases hm; cases hst; cases ht; rfl

/-- **the symbolic evaluation of a specification is a function of the concrete scheduled run**: stack words are
    the schedule-independent opaque terms read in the final loaded values; memory and storage are the final ones -/
theorem evalSpec_denote (S : Spec) (hn : namesOk S = true) (L : List String) (X : SymSt)
    (h : evalSpec S L = some X) :
    ∃ stk', termsOf S (opaqueEnv S) (fuelOf S) S.tgt = some stk' ∧
      denote e σ₀ X =
        (stk'.map (evalW (withLoads e (runSched e σ₀ S L (initC σ₀)).lv) σ₀),
         (runSched e σ₀ S L (initC σ₀)).mem, (runSched e σ₀ S L (initC σ₀)).sto) := by
  obtain ⟨st, stk, hr, ht, rfl⟩ := evalSpec_some.1 h
  have hi := runSchedule_sim e σ₀ S hn L {} st (initC σ₀) (inv_init e σ₀ S) hr
  obtain ⟨stk', g1, _, g3⟩ := (termOf_sim e σ₀ S hn st.env _ hi.sim (fuelOf S)).2 S.tgt stk ht
  exact ⟨stk', g1, by simp [denote, g3, hi.mem, hi.sto]⟩

/-- **C02, end to end on the model**: if the conflicting operations of a specification are ordered by `edges`
    (`conflictsOrdered`, run by the check on every specification the front end emits), then any two schedules that
    run the same operations once and respect `edges` give symbolic states with the same meaning on every initial
    state and every well-formed environment. -/
theorem spec_schedule_independent (we : e.wf) (S : Spec) (hn : namesOk S = true)
    (edges : List (String × String)) (fuel : Nat) (L₁ L₂ : List String) (hnd : L₁.Nodup) (hp : L₁.Perm L₂)
    (hco : conflictsOrdered S edges fuel L₁ = true)
    (hr₁ : respectsB L₁ edges = true) (hr₂ : respectsB L₂ edges = true)
    (X₁ X₂ : SymSt) (h₁ : evalSpec S L₁ = some X₁) (h₂ : evalSpec S L₂ = some X₂) :
    denote e σ₀ X₁ = denote e σ₀ X₂ := by
  obtain ⟨s1, a1, b1⟩ := evalSpec_denote e σ₀ S hn L₁ X₁ h₁
  obtain ⟨s2, a2, b2⟩ := evalSpec_denote e σ₀ S hn L₂ X₂ h₂
  rw [a1] at a2
  cases a2
  rw [b1, b2, checked_schedules_agree e σ₀ we S edges fuel L₁ L₂ hnd hp hco hr₁ hr₂ (initC σ₀)]

/-- `scheduleMatches` is a sound validator: a specification that matches the block under schedule `L` concretises,
    on every state deep enough, to exactly the state the block produces -/
theorem scheduleMatches_sound {nf : Normaliser} (hn : NormSound nf) (S : Spec) (L : List String) (B : List Instr)
    (X : SymSt) (hX : evalSpec S L = some X) (h : scheduleMatches nf S L B = true)
    (e : GasolVerif.Env) (we : e.wf) (σ : St) :
    ∃ Y, symExec B .init = some Y ∧
      (max X.base Y.base ≤ σ.stack.length → exec e B σ = some (X.conc e σ)) := by
  unfold scheduleMatches at h
  rw [hX] at h
  cases hY : symExec B .init with
  | none => simp [hY] at h
  | some Y =>
    simp only [hY, Bool.and_eq_true, beq_iff_eq] at h
    refine ⟨Y, rfl, fun hd => ?_⟩
    have e2 := symExec_init e σ B Y hY
    rw [if_pos (by omega)] at e2
    -- compare at the deeper of the two depths: pad both states to it
    obtain ⟨hXb, hXc⟩ := ensure_depth e σ X (Nat.le_max_left X.base Y.base) hd
    obtain ⟨hYb, hYc⟩ := ensure_depth e σ Y (Nat.le_max_right X.base Y.base) hd
    rw [e2, ← hXc, ← hYc]
    exact congrArg some (hn.conc_eq e we σ (hYb.trans hXb.symm) h.1.1.symm h.1.2.symm h.2.symm)

theorem evalSpec_base (S : Spec) (L : List String) (X : SymSt) (h : evalSpec S L = some X) :
    X.base = S.src.length := by
  obtain ⟨_, _, -, -, rfl⟩ := evalSpec_some.1 h
  rfl

/-- **C02 on the model, stated as the property reads**: let the conflicting operations of `S` be ordered by `edges`
    and let ONE schedule `L₁` respecting `edges` match the block (`scheduleMatches`, the proved validator).  Then for
    EVERY schedule `L₂` of the same operations respecting `edges`, every well-formed environment and every state
    deep enough, running the block gives exactly the state the specification evaluated under `L₂` denotes. -/
theorem spec_denotes_block_under_every_schedule (S : Spec) (hn : namesOk S = true)
    (edges : List (String × String)) (fuel : Nat) (L₁ L₂ : List String) (B : List Instr)
    (hnd : L₁.Nodup) (hp : L₁.Perm L₂)
    (hco : conflictsOrdered S edges fuel L₁ = true)
    (hr₁ : respectsB L₁ edges = true) (hr₂ : respectsB L₂ edges = true)
    (hm : scheduleMatches norm3 S L₁ B = true)
    (X₂ : SymSt) (h₂ : evalSpec S L₂ = some X₂)
    (e : GasolVerif.Env) (we : e.wf) (σ : St) :
    ∃ Y, symExec B .init = some Y ∧
      (max S.src.length Y.base ≤ σ.stack.length → exec e B σ = some (X₂.conc e σ)) := by
  cases h₁ : evalSpec S L₁ with
  | none => simp [scheduleMatches, h₁] at hm
  | some X₁ =>
    obtain ⟨Y, hY, hx⟩ := scheduleMatches_sound norm3_sound S L₁ B X₁ h₁ hm e we σ
    have b1 := evalSpec_base S L₁ X₁ h₁
    refine ⟨Y, hY, fun hd => (hx (b1 ▸ hd)).trans (congrArg some ?_)⟩
    exact conc_of_denote e σ (spec_schedule_independent e σ we S hn edges fuel L₁ L₂ hnd hp hco hr₁ hr₂ X₁ X₂ h₁ h₂).symm
      (by rw [evalSpec_base S L₂ X₂ h₂, ← b1]; rfl) rfl rfl rfl

end GasolVerif.Spec
