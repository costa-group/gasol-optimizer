/-
  C06: soundness of the stack core of the Max-SMT encoding (Models/Encoding.lean).  The constraints are read under a
  valuation with the `u` flags as the occupancy predicate of `EncodingStack` (`transRaw_reads`, `stackAt_reads`);
  `core_sound`: a satisfying valuation decodes to a run from the initial to the target stack, `core_sound_built` the
  same for the emitted formulas; `core_realizes`: with values that identify stack variables (`inj_*`) the run is
  symbolic — every operation is applied to the operands the specification names.
-/
import GasolVerif.Models.EncodingOrder
import GasolVerif.Proofs.FormulaSound
import GasolVerif.Proofs.EncodingStack
namespace GasolVerif.Enc
open GasolVerif.Formula

@[simp] theorem evalB_uA (v : Val) (i j : Nat) : evalB v (uA i j) = U v i j := by simp [uA, U, evalB, evalIs]
@[simp] theorem evalI_xA (v : Val) (i j : Nat) : evalI v (xA i j) = X v i j := by simp [xA, X, evalI, evalIs]
@[simp] theorem evalI_tA (v : Val) (j : Nat) : evalI v (tA j) = T v j := by simp [tA, T, evalI, evalIs]
@[simp] theorem evalI_aA (v : Val) (j : Nat) : evalI v (aA j) = A v j := by simp [aA, A, evalI, evalIs]
@[simp] theorem evalI_num (v : Val) (n : Int) : evalI v (.num n) = n := by simp [evalI]

theorem evalB_eq_bool (v : Val) {a : F} (b : F) (h : a.isBoolSorted = true) :
    evalB v (.conn .eq [a, b]) = (evalB v a == evalB v b) := by rw [evalB, if_pos h]
theorem evalB_eq_int (v : Val) {a : F} (b : F) (h : a.isBoolSorted = false) :
    evalB v (.conn .eq [a, b]) = (evalI v a == evalI v b) := by rw [evalB, if_neg (Bool.eq_false_iff.mp h)]
@[simp] theorem evalB_eq_u (v : Val) (i j i' j' : Nat) :
    evalB v (.conn .eq [uA i j, uA i' j']) = (U v i j == U v i' j') := by
  rw [evalB_eq_bool v _ rfl, evalB_uA, evalB_uA]
@[simp] theorem evalB_eq_x (v : Val) (i j : Nat) (t : F) :
    evalB v (.conn .eq [xA i j, t]) = (X v i j == evalI v t) := by
  rw [evalB_eq_int v _ rfl, evalI_xA]
@[simp] theorem evalB_isT (I : Inst) (v : Val) (j th : Nat) :
    evalB v (isT I j th) = (T v j == thetaV I v th) := by
  rw [isT, evalB_eq_int v _ rfl, evalI_tA, thetaV]
@[simp] theorem evalB_not (v : Val) (a : F) : evalB v (.conn .not [a]) = !evalB v a := by simp [evalB]
@[simp] theorem evalB_imp (v : Val) (a b : F) : evalB v (.conn .imp [a, b]) = (!evalB v a || evalB v b) := by simp [evalB]
@[simp] theorem evalB_and (v : Val) (as : List F) : evalB v (.conn .and as) = evalAll v as := by simp [evalB]
@[simp] theorem evalB_or (v : Val) (as : List F) : evalB v (.conn .or as) = evalAny v as := by simp [evalB]
@[simp] theorem evalB_lit (v : Val) (b : Bool) : evalB v (.lit b) = b := by simp [evalB]
@[simp] theorem evalB_le (v : Val) (a b : F) : evalB v (.conn .le [a, b]) = decide (evalI v a ≤ evalI v b) := by simp [evalB]
@[simp] theorem evalB_lt (v : Val) (a b : F) : evalB v (.conn .lt [a, b]) = decide (evalI v a < evalI v b) := by simp [evalB]
theorem evalB_distinct (v : Val) (as : List F) : evalB v (.conn .distinct as) = true ↔ (as.map (evalI v)).Nodup := by
  rw [evalB, pairwiseDistinct_iff, evalIs_eq_map]

theorem evalAll_iff (v : Val) (as : List F) : evalAll v as = true ↔ ∀ f ∈ as, evalB v f = true :=
  Formula.evalAll_iff v as

theorem evalAny_iff (v : Val) (as : List F) : evalAny v as = true ↔ ∃ f ∈ as, evalB v f = true :=
  Formula.evalAny_iff v as

theorem and_list_iff (v : Val) (as : List F) : evalB v (.conn .and as) = true ↔ ∀ f ∈ as, evalB v f = true := by
  rw [evalB_and, evalAll_iff]

theorem evalAll_map (v : Val) {α} (l : List α) (f : α → F) :
    evalAll v (l.map f) = true ↔ ∀ x ∈ l, evalB v (f x) = true := by
  simp [evalAll_iff]

theorem evalAny_map (v : Val) {α} (l : List α) (f : α → F) :
    evalAny v (l.map f) = true ↔ ∃ x ∈ l, evalB v (f x) = true := by
  induction l with
  | nil => simp [evalAny]
  | cons a l ih => simp [evalAny, ih]

theorem evalAll_flatMap (v : Val) {α} (l : List α) (f : α → List F) :
    evalAll v (l.flatMap f) = true ↔ ∀ x ∈ l, evalAll v (f x) = true := by
  simp only [evalAll_iff, List.forall_mem_flatMap]

/-- `add_and` of a possibly empty list -/
theorem evalB_andOrTrue (v : Val) (l : List F) :
    evalB v (if l.isEmpty then F.lit true else .conn .and l) = evalAll v l := by
  cases l <;> simp [evalAll]

theorem mem_rangeL (a b i : Nat) : i ∈ rangeL a b ↔ a ≤ i ∧ i < b := by
  simp only [rangeL, List.mem_map, List.mem_range]
  exact ⟨fun ⟨k, hk, e⟩ => e ▸ ⟨Nat.le_add_left _ _, Nat.add_lt_of_lt_sub hk⟩,
    fun ⟨h1, h2⟩ => ⟨i - a, Nat.sub_lt_sub_right h1 h2, Nat.sub_add_cancel h1⟩⟩

theorem rangeL_zero (n : Nat) : rangeL 0 n = List.range n := by simp [rangeL]

theorem evalB_move (v : Val) (j al be : Nat) (d : Int) :
    evalB v (move j al be d) = true ↔
      ∀ i, al ≤ i → i ≤ be → U v (shift i d) (j + 1) = U v i j ∧ X v (shift i d) (j + 1) = X v i j := by
  unfold move
  split
  · simp; omega
  · simp [evalAll_flatMap, evalAll, mem_rangeL, Nat.lt_succ_iff]

theorem move_reads (v : Val) (j al be : Nat) (d : Int) :
    evalB v (move j al be d) = true ↔ Moves (U v) v j al be d := by
  simp only [evalB_move, Moves, Int.ofNat_le]

theorem moveI_reads (v : Val) (j al : Nat) (be d : Int) :
    evalB v (moveI j al be d) = true ↔ Moves (U v) v j al be d := by
  unfold moveI
  split
  · rename_i h; simpa using moves_of_gt h
  · rename_i h; rw [move_reads, moves_toNat h]

theorem map_of_mapM {α β} (f : α → Option β) : ∀ (l : List α) (rs : List β), l.mapM f = some rs → l.map f = rs.map some
  | [], _, h => by cases h; rfl
  | a :: l, _, h => by
    simp only [List.mapM_cons, Option.bind_eq_bind, Option.bind_eq_some_iff, Option.pure_def, Option.some.injEq] at h
    obtain ⟨b, hb, bs, hbs, rfl⟩ := h
    rw [List.map_cons, hb, map_of_mapM f l bs hbs]; rfl

theorem mapM_some_get {α β} (f : α → Option β) (o : List α) (ts : List β) (h : o.mapM f = some ts) :
    ts.length = o.length ∧ ∀ i (h1 : i < o.length) (h2 : i < ts.length), f o[i] = some ts[i] := by
  have h := map_of_mapM f o ts h
  refine ⟨by simpa using (congrArg List.length h).symm, fun i h1 h2 => ?_⟩
  simpa [List.getElem?_eq_getElem, h1, h2] using congrArg (·[i]?) h

theorem mapM_mem {α β} (g : α → Option β) (l : List α) (rs : List β) (h : l.mapM g = some rs) (x : α) (hx : x ∈ l) :
    ∃ r, g x = some r ∧ r ∈ rs := by
  have : g x ∈ rs.map some := map_of_mapM g l rs h ▸ List.mem_map_of_mem hx
  obtain ⟨r, hr, e⟩ := List.mem_map.mp this
  exact ⟨r, e.symm, hr⟩

theorem mapM_id_mem {α} (l : List (Option α)) (rs : List α) (h : l.mapM id = some rs) (x : Option α) (hx : x ∈ l) :
    ∃ r, x = some r ∧ r ∈ rs := mapM_mem id l rs h x hx

theorem valOf_of (I : Inst) (v : Val) (s : SV) (t : F) (h : svF I s = some t) : valOf I v s = evalI v t := by
  simp [valOf, h]

theorem valOf_num (I : Inst) (v : Val) (n : Int) : valOf I v (.num n) = n := by simp [valOf, svF, evalI]

theorem mapM_svF_eval (I : Inst) (v : Val) (o : List SV) (ts : List F) (h : o.mapM (svF I) = some ts) :
    ts.map (evalI v) = o.map (valOf I v) := by
  have : valOf I v = (fun t : Option F => match t with | some t => evalI v t | none => 0) ∘ svF I := rfl
  rw [this, ← List.map_map, map_of_mapM _ o ts h, List.map_map]; rfl

-- `Height I v` unfolds to `HeightP I.bs (U v)`: the `u` flags are one occupancy predicate, and the next two are instances

theorem consume_produce (I : Inst) (v : Val) (j h n : Nat) (hh : Height I v j h) (hbs : 1 ≤ I.bs)
    (hn : n ≤ h) (hroom : n = 0 → U v (I.bs - 1) j = false)
    (htop : U v 0 (j + 1) = true)
    (hmv : ∀ i, n ≤ i → i < I.bs → i + 1 - n < I.bs →
      U v (i + 1 - n) (j + 1) = U v i j ∧ X v (i + 1 - n) (j + 1) = X v i j)
    (hfree : ∀ i, I.bs - n + 1 ≤ i → i < I.bs → U v i (j + 1) = false) :
    Height I v (j + 1) (h - n + 1) ∧ stk v (j + 1) (h - n + 1) = X v 0 (j + 1) :: (stk v j h).drop n :=
  consume_produceP I.bs (U v) v j h n hh hbs hn hroom htop hmv hfree

theorem consume (I : Inst) (v : Val) (j h n : Nat) (hh : Height I v j h) (hn1 : 1 ≤ n)
    (hn : n ≤ h)
    (hmv : ∀ i, n ≤ i → i < I.bs → U v (i - n) (j + 1) = U v i j ∧ X v (i - n) (j + 1) = X v i j)
    (hfree : ∀ i, I.bs - n ≤ i → i < I.bs → U v i (j + 1) = false) :
    Height I v (j + 1) (h - n) ∧ stk v (j + 1) (h - n) = (stk v j h).drop n :=
  consumeP I.bs (U v) v j h n hh hn1 hn hmv hfree

theorem transRaw_reads (I : Inst) (v : Val) (ins : Instr) (j : Nat) (raw : F) (hraw : transRaw I ins j = some raw)
    (hc : evalB v raw = true) (ht : T v j = thetaV I v ins.theta) : Reads I (U v) v (valOf I v) j ins.kind := by
  obtain ⟨th, id, k, lb, ub⟩ := ins
  cases k <;> simp only [transRaw, Option.bind_eq_bind, Option.bind_eq_some_iff, Option.some.injEq] at hraw
  -- `Reads` spells each conjunct as the `evalB_*` lemmas leave it and keeps the order of the constraint, so the
  -- constraint read under `ht` is `Reads` as it stands
  case nop | pop | pushBasic | dup | swap =>
    subst hraw; simpa [Reads, ht, evalAll, move_reads, moveI_reads] using hc
  case popU =>
    obtain ⟨t0, h0, rfl⟩ := hraw
    simpa [Reads, ht, evalAll, move_reads, valOf_of I v _ _ h0] using hc
  case store =>
    obtain ⟨t0, h0, t1, h1, rfl⟩ := hraw
    simpa [Reads, ht, evalAll, move_reads, valOf_of I v _ _ h0, valOf_of I v _ _ h1] using hc
  case comm =>
    obtain ⟨t0, h0, t1, h1, tr, h2, rfl⟩ := hraw
    simpa [Reads, ht, evalAll, evalAny, move_reads, valOf_of I v _ _ h0, valOf_of I v _ _ h1,
      valOf_of I v _ _ h2] using hc
  case nonComm o r =>
    obtain ⟨ts, h0, tr, h2, rfl⟩ := hraw
    simp only [evalB_imp, evalB_isT, ht, beq_self_eq_true, Bool.not_true, Bool.false_or, evalB_and, evalAll,
      Bool.and_eq_true, evalB_andOrTrue, evalAll_append, evalAll_map, mem_rangeL, moveI_reads, evalB_uA, evalB_not,
      evalB_eq_x, beq_iff_eq, Bool.not_eq_true', and_true, and_imp, and_assoc, ← valOf_of I v _ _ h2, ← holds_map_iff,
      mapM_svF_eval I v o ts h0] at hc
    exact hc

theorem step_sound (I : Inst) (v : Val) (ins : Instr) (j h : Nat) (hh : Height I v j h)
    (hfit : kindFits I.bs ins.kind = true) (raw : F) (hraw : transRaw I ins j = some raw)
    (hc : evalB v raw = true) (ht : T v j = thetaV I v ins.theta) :
    ∃ h', Height I v (j + 1) h' ∧
      stepVal I (valOf I v) ins.kind (A v j) (stk v j h) = some (stk v (j + 1) h') :=
  reads_sound I (U v) v (valOf I v) j h hh ins.kind hfit (transRaw_reads I v ins j raw hraw hc ht)

theorem domain_sound (I : Inst) (v : Val) (j : Nat) (h : evalB v (domainRaw I j) = true) :
    ∃ ins ∈ I.instrs, (ins.lb ≤ j ∧ j ≤ ins.ub) ∧ T v j = thetaV I v ins.theta := by
  simpa [domainRaw, evalAny_map, and_assoc] using h

theorem stackAt_reads (I : Inst) (v : Val) (j : Nat) (st : List SV) (fs : List F) (hfs : stackAtRaw I j st = some fs)
    (hsat : ∀ f ∈ fs, evalB v f = true) :
    Holds (U v) v j (st.map (valOf I v)) ∧ FreeFrom I.bs (U v) j st.length := by
  simp only [stackAtRaw, Option.bind_eq_bind, Option.bind_eq_some_iff, Option.some.injEq] at hfs
  obtain ⟨ts, hts, rfl⟩ := hfs
  simpa only [← evalAll_iff, evalAll_append, Bool.and_eq_true, evalAll_map, evalB_and, evalAll, evalB_uA, evalB_eq_x,
    evalB_not, beq_iff_eq, Bool.not_eq_true', and_true, mem_rangeL, and_imp, ← holds_map_iff,
    mapM_svF_eval I v st ts hts, FreeFrom] using hsat

/-- the shape `coreRaw` and its `-empty` variant share (each unfolds to it): domain constraints, the transition
    constraints `tr` of every instruction within its bounds, the stack constraints `stackAt` at both ends -/
def coreWith (I : Inst) (tr : Instr → Nat → Option F) (stackAt : Nat → List SV → Option (List F)) :
    Option (List F) := do
  let trans ← (I.instrs.flatMap fun ins => (rangeL ins.lb (ins.ub + 1)).map fun j => tr ins j).mapM id
  let ini ← stackAt 0 I.src
  let fin ← if I.terminal then stackTerminalRaw I I.b0 I.tgt else stackAt I.b0 I.tgt
  some ((rangeL 0 I.b0).map (domainRaw I) ++ trans ++ ini ++ fin)

theorem domain_mem_coreWith (I : Inst) (tr : Instr → Nat → Option F) (stackAt : Nat → List SV → Option (List F))
    (raws : List F) (hraw : coreWith I tr stackAt = some raws) (j : Nat) (hj : j < I.b0) : domainRaw I j ∈ raws := by
  simp only [coreWith, Option.bind_eq_bind, Option.bind_eq_some_iff] at hraw
  obtain ⟨trans, _, ini, _, h⟩ := hraw
  -- terminal or not, the constraints on the final stack come last
  have : ∃ fin, raws = (rangeL 0 I.b0).map (domainRaw I) ++ trans ++ ini ++ fin := by
    split at h <;> (obtain ⟨fin, _, h⟩ := Option.bind_eq_some_iff.mp h; exact ⟨fin, (Option.some.inj h).symm⟩)
  obtain ⟨fin, rfl⟩ := this
  exact List.mem_append_left _ (List.mem_append_left _ (List.mem_append_left _
    (List.mem_map_of_mem ((mem_rangeL 0 I.b0 j).mpr ⟨Nat.zero_le _, hj⟩))))

theorem run_of_core (I : Inst) (v : Val) (P : Nat → Nat → Bool) (tr : Instr → Nat → Option F)
    (stackAt : Nat → List SV → Option (List F)) (raws : List F) (hraw : coreWith I tr stackAt = some raws)
    (hsat : ∀ f ∈ raws, evalB v f = true) (hok : instOk I = true)
    (htr : ∀ ins ∈ I.instrs, ∀ j raw, tr ins j = some raw → evalB v raw = true → T v j = thetaV I v ins.theta →
      Reads I P v (valOf I v) j ins.kind)
    (hst : ∀ j st fs, st = I.src ∨ st = I.tgt → stackAt j st = some fs → (∀ f ∈ fs, evalB v f = true) →
      Holds P v j (st.map (valOf I v)) ∧ FreeFrom I.bs P j st.length) :
    ∃ steps : List (Kind × Int), steps.length = I.b0 ∧ Decodes I v steps ∧
      runVal I (valOf I v) steps (I.src.map (valOf I v)) = some (I.tgt.map (valOf I v)) := by
  simp only [instOk, Bool.and_eq_true, List.all_eq_true, decide_eq_true_eq, Bool.not_eq_true', and_assoc] at hok
  obtain ⟨hfit, hsrc, htgt, hterm⟩ := hok
  simp only [coreWith, hterm, Bool.false_eq_true, if_false, Option.bind_eq_bind, Option.bind_eq_some_iff,
    Option.some.injEq] at hraw
  obtain ⟨trans, htrans, ini, hini, fin, hfin, rfl⟩ := hraw
  simp only [List.forall_mem_append, List.forall_mem_map, and_assoc] at hsat
  obtain ⟨hdom, htrs, hi, hf⟩ := hsat
  refine run_of_reads I P v hfit ?_ _ _ (by simpa using hsrc) (by simpa using htgt)
    (by simpa using hst 0 I.src ini (Or.inl rfl) hini hi) (by simpa using hst I.b0 I.tgt fin (Or.inr rfl) hfin hf)
  intro j hj
  obtain ⟨ins, hm, hb, hT⟩ := domain_sound I v j (hdom j ((mem_rangeL 0 _ j).mpr ⟨Nat.zero_le _, hj⟩))
  obtain ⟨raw, hraw, hmem⟩ := mapM_id_mem _ trans htrans (tr ins j) (List.mem_flatMap.mpr
    ⟨ins, hm, List.mem_map_of_mem ((mem_rangeL _ _ _).mpr ⟨hb.1, Nat.lt_succ_of_le hb.2⟩)⟩)
  exact ⟨ins, hm, hT, htr ins hm j raw hraw (htrs raw hmem) hT⟩

/-- **soundness of the stack core of the encoding**: every valuation that satisfies the core constraints decodes
    to a sequence of `b0` instructions of the instance that, run on the values of the initial stack, never gets
    stuck (no underflow, no overflow of the stack bound, operands as named) and ends in the values of the target
    stack. -/
theorem core_sound (I : Inst) (v : Val) (raws : List F) (hraw : coreRaw I = some raws)
    (hsat : ∀ f ∈ raws, evalB v f = true) (hok : instOk I = true) :
    ∃ steps : List (Kind × Int), steps.length = I.b0 ∧ Decodes I v steps ∧
      runVal I (valOf I v) steps (I.src.map (valOf I v)) = some (I.tgt.map (valOf I v)) :=
  run_of_core I v (U v) _ _ raws hraw hsat hok (fun ins _ j raw => transRaw_reads I v ins j raw)
    (fun j st fs _ => stackAt_reads I v j st fs)

theorem raw_sat_of_built (v : Val) (raws built : List F) (hb : buildAll raws = some built)
    (hws : raws.all F.ws = true) (hsat : ∀ f ∈ built, evalB v f = true) : ∀ f ∈ raws, evalB v f = true := by
  intro f hf
  obtain ⟨r, hr, hmem⟩ := mapM_mem _ raws built hb f hf
  cases hbf : build f with
  | error e => simp [hbf] at hr
  | ok r' =>
    simp only [hbf, Option.some.injEq] at hr
    subst hr
    rw [← (build_eval v f r' (List.all_eq_true.mp hws f hf) hbf).1]; exact hsat r' hmem

/-- **C06 (stack core) on the emitted formulas**: the formulas the model emits — compared, constraint by
    constraint, with what the real encoder emits — are the raw trees built through the (proved) constructor model;
    a valuation satisfying them satisfies the raw trees (`Formula.build_eval`), hence decodes to a realizing run. -/
theorem core_sound_built (I : Inst) (v : Val) (raws built : List F) (hraw : coreRaw I = some raws)
    (hb : coreBuilt I = some built) (hws : raws.all F.ws = true)
    (hsat : ∀ f ∈ built, evalB v f = true) (hok : instOk I = true) :
    ∃ steps : List (Kind × Int), steps.length = I.b0 ∧ Decodes I v steps ∧
      runVal I (valOf I v) steps (I.src.map (valOf I v)) = some (I.tgt.map (valOf I v)) :=
  core_sound I v raws hraw (raw_sat_of_built v raws built (by rw [coreBuilt, hraw] at hb; exact hb) hws hsat) hok

theorem map_inj_on {val : SV → Int} {D : SV → Prop} (inj : ∀ x y, D x → D y → val x = val y → x = y) :
    ∀ (l₁ l₂ : List SV), (∀ x ∈ l₁, D x) → (∀ x ∈ l₂, D x) → l₁.map val = l₂.map val → l₁ = l₂ :=
  fun _ _ h1 h2 h =>
    List.ext_getElem (by simpa using congrArg List.length h) fun i hi1 hi2 =>
      inj _ _ (h1 _ (List.getElem_mem hi1)) (h2 _ (List.getElem_mem hi2))
        (by simpa [hi1, hi2] using congrArg (·[i]?) h)

theorem map_inj_on_iff {val : SV → Int} {D : SV → Prop} (inj : ∀ x y, D x → D y → val x = val y → x = y)
    {l₁ l₂ : List SV} (h1 : ∀ x ∈ l₁, D x) (h2 : ∀ x ∈ l₂, D x) : l₁.map val = l₂.map val ↔ l₁ = l₂ :=
  ⟨map_inj_on inj l₁ l₂ h1 h2, fun h => h ▸ rfl⟩

/-- on the symbols `D` that `val` identifies (those of the stack and of the instruction), the value step on a mapped stack is the
    map of the symbolic step -/
theorem stepVal_map (I : Inst) (val : SV → Int) (D : SV → Prop)
    (inj : ∀ x y, D x → D y → val x = val y → x = y) (hnum : ∀ n, val (.num n) = n)
    (k : Kind) (a : Int) (hk : ∀ x ∈ k.svs, D x) (S : List SV) (hS : ∀ x ∈ S, D x) :
    stepVal I val k a (S.map val) = (stepSym I k a S).map (List.map val) := by
  have iff : ∀ {x y}, D x → D y → (val x = val y ↔ x = y) := fun hx hy => ⟨inj _ _ hx hy, fun h => h ▸ rfl⟩
  cases k <;> simp only [Kind.svs, List.forall_mem_cons] at hk
  case nop => rfl
  case pop => cases S <;> rfl
  case pushBasic => simp only [stepVal, stepSym, List.length_map]; split <;> simp [hnum]
  case dup k => simp only [stepVal, stepSym, List.length_map]; split <;> simp [Function.comp_def]
  case swap k => cases S <;> simp [stepVal, stepSym, List.map_set, Function.comp_def]
  case popU o0 =>
    cases S with
    | nil => rfl
    | cons y r => simp only [stepVal, stepSym, List.map_cons, iff (hS y (.head _)) hk.1]; split <;> rfl
  case store o0 o1 =>
    match S, hS with
    | [], _ | [_], _ => rfl
    | y0 :: y1 :: r, hS =>
      simp only [List.forall_mem_cons] at hS
      simp only [stepVal, stepSym, List.map_cons, iff hS.1 hk.1, iff hS.2.1 hk.2.1]
      split <;> rfl
  case comm o0 o1 r =>
    match S, hS with
    | [], _ | [_], _ => rfl
    | y0 :: y1 :: rest, hS =>
      simp only [List.forall_mem_cons] at hS
      simp only [stepVal, stepSym, List.map_cons, iff hS.1 hk.1, iff hS.2.1 hk.2.1, iff hS.1 hk.2.1, iff hS.2.1 hk.1]
      split <;> rfl
  case nonComm o r =>
    simp only [stepVal, stepSym, List.length_map, ← List.map_take, ← List.map_drop,
      map_inj_on_iff inj (l₁ := S.take o.length) (l₂ := o) (fun x hx => hS x (List.mem_of_mem_take hx)) hk.2]
    split <;> rfl

theorem stepSym_forall {I : Inst} {k : Kind} {a : Int} {S S' : List SV} {Q : SV → Prop} (h : stepSym I k a S = some S')
    (hS : ∀ x ∈ S, Q x) (hk : ∀ x ∈ k.svs, Q x) (hp : k = .pushBasic → 0 ≤ a → a < I.intLimit → Q (.num a)) :
    ∀ x ∈ S', Q x := by
  -- where `stepSym` matches on the stack, `h` leaves the one shape on which it is not `none`
  cases k <;> simp only [stepSym, Option.ite_none_right_eq_some, Option.map_eq_some_iff, Option.some.injEq] at h
  case nop => exact h ▸ hS
  case pop =>
    match S, h with
    | _ :: r, h => exact Option.some.inj h ▸ fun x hx => hS x (List.mem_cons_of_mem _ hx)
  case pushBasic =>
    obtain ⟨⟨-, h0, hl⟩, rfl⟩ := h
    exact List.forall_mem_cons.mpr ⟨hp rfl h0 hl, hS⟩
  case dup k =>
    obtain ⟨-, y, hy, rfl⟩ := h
    exact List.forall_mem_cons.mpr ⟨hS y (List.mem_of_getElem? hy), hS⟩
  case swap k =>
    match S, hS, h with
    | top :: rest, hS, h =>
      obtain ⟨y, hy, rfl⟩ := Option.map_eq_some_iff.mp h
      obtain ⟨htop, hrest⟩ := List.forall_mem_cons.mp hS
      refine List.forall_mem_cons.mpr ⟨hrest y (List.mem_of_getElem? hy), fun x hx => ?_⟩
      exact (List.mem_or_eq_of_mem_set hx).elim (hrest x) (· ▸ htop)
  case popU o0 =>
    match S, h with
    | y :: r, h =>
      obtain ⟨-, h⟩ := Option.ite_none_right_eq_some.mp h
      exact Option.some.inj h ▸ fun x hx => hS x (List.mem_cons_of_mem _ hx)
  case store o0 o1 =>
    match S, h with
    | y0 :: y1 :: r, h =>
      obtain ⟨-, h⟩ := Option.ite_none_right_eq_some.mp h
      exact Option.some.inj h ▸ fun x hx => hS x (List.mem_cons_of_mem _ (List.mem_cons_of_mem _ hx))
  case comm o0 o1 r =>
    match S, h with
    | y0 :: y1 :: rest, h =>
      obtain ⟨-, h⟩ := Option.ite_none_right_eq_some.mp h
      exact Option.some.inj h ▸ List.forall_mem_cons.mpr ⟨hk r (by simp [Kind.svs]),
        fun x hx => hS x (List.mem_cons_of_mem _ (List.mem_cons_of_mem _ hx))⟩
  case nonComm o r =>
    obtain ⟨-, rfl⟩ := h
    exact List.forall_mem_cons.mpr ⟨hk r (by simp [Kind.svs]), fun x hx => hS x (List.mem_of_mem_drop hx)⟩
/-- **from values to stack variables**: if the values of the stack variables (and pushed constants) that can occur
    identify them, the value-level run of `core_sound` is a symbolic run on stack variables that ends in exactly
    the target stack: each operation is applied to the operands the specification names. -/
theorem runSym_of_runVal (I : Inst) (val : SV → Int) (D : SV → Prop)
    (inj : ∀ x y, D x → D y → val x = val y → x = y) (hnum : ∀ n, val (.num n) = n)
    :
    ∀ (steps : List (Kind × Int)) (S : List SV) (W : List Int),
      (∀ st ∈ steps, st.1 = .pushBasic → ∀ n : Int, 0 ≤ n → n < I.intLimit → D (.num n)) →
      (∀ st ∈ steps, ∀ x ∈ st.1.svs, D x) → (∀ x ∈ S, D x) →
      runVal I val steps (S.map val) = some W → ∃ S', runSym I steps S = some S' ∧ S'.map val = W ∧ ∀ x ∈ S', D x
  | [], S, W, _, _, hS, h => by simp [runVal] at h; subst h; exact ⟨S, rfl, rfl, hS⟩
  | (k, a) :: r, S, W, hDnum, hst, hS, h => by
    have hk := hst (k, a) (by simp)
    rw [runVal, stepVal_map I val D inj hnum k a hk S hS] at h
    obtain ⟨_, h1, h⟩ := Option.bind_eq_some_iff.mp h
    obtain ⟨S1, e1, rfl⟩ := Option.map_eq_some_iff.mp h1
    have hS1 := stepSym_forall e1 hS hk fun hpb => hDnum (k, a) (by simp) hpb a
    obtain ⟨S', f1, f2, f3⟩ := runSym_of_runVal I val D inj hnum r S1 W
      (fun st hs => hDnum st (List.mem_cons_of_mem _ hs)) (fun st hs => hst st (List.mem_cons_of_mem _ hs)) hS1 h
    exact ⟨S', by simp [runSym, e1, f1], f2, f3⟩

theorem mem_allSVs_of_kind {I : Inst} {ins : Instr} (hm : ins ∈ I.instrs) {x : SV} (hx : x ∈ ins.kind.svs) :
    x ∈ allSVs I :=
  List.mem_append_right _ (List.mem_flatMap.mpr ⟨ins, hm, hx⟩)

theorem runSym_of_decodes (I : Inst) (v : Val) (steps : List (Kind × Int)) (hdec : Decodes I v steps)
    (hrun : runVal I (valOf I v) steps (I.src.map (valOf I v)) = some (I.tgt.map (valOf I v)))
    (inj : ∀ x y, Dom I x → Dom I y → valOf I v x = valOf I v y → x = y) : runSym I steps I.src = some I.tgt := by
  -- every step is an instruction of the instance, so what it mentions or pushes is in `Dom`
  have hD : ∀ st ∈ steps, (st.1 = .pushBasic → ∀ n : Int, 0 ≤ n → n < I.intLimit → Dom I (.num n)) ∧
      ∀ x ∈ st.1.svs, Dom I x := fun st hst => by
    obtain ⟨j, hj, rfl⟩ := List.getElem_of_mem hst
    obtain ⟨ins, hm, hk, _⟩ := hdec j hj
    exact ⟨fun hpb n h0 hl => .inr ⟨⟨ins, hm, hk.trans hpb⟩, n, rfl, h0, hl⟩,
      fun x hx => .inl (mem_allSVs_of_kind hm (hk ▸ hx))⟩
  obtain ⟨S', h1, h2, h3⟩ := runSym_of_runVal I (valOf I v) (Dom I) inj (valOf_num I v) steps I.src _
    (fun st hst => (hD st hst).1) (fun st hst => (hD st hst).2) (fun x hx => .inl (by simp [allSVs, hx])) hrun
  rwa [map_inj_on inj S' I.tgt h3 (fun x hx => .inl (by simp [allSVs, hx])) h2] at h1

/-- **C06, stack core, as the property reads**: a valuation that satisfies the emitted core constraints and gives
    different values to different stack variables decodes to `b0` instructions of the instance whose symbolic
    execution from the initial stack applies every operation to exactly the operands the specification names, never
    underflows nor exceeds the stack bound, and ends with exactly the target stack. -/
theorem core_realizes (I : Inst) (v : Val) (raws built : List F) (hraw : coreRaw I = some raws)
    (hb : coreBuilt I = some built) (hws : raws.all F.ws = true)
    (hsat : ∀ f ∈ built, evalB v f = true) (hok : instOk I = true)
    (inj : ∀ x y, Dom I x → Dom I y → valOf I v x = valOf I v y → x = y) :
    ∃ steps : List (Kind × Int), steps.length = I.b0 ∧ Decodes I v steps ∧ runSym I steps I.src = some I.tgt := by
  obtain ⟨steps, hlen, hdec, hrun⟩ := core_sound_built I v raws built hraw hb hws hsat hok
  exact ⟨steps, hlen, hdec, runSym_of_decodes I v steps hdec hrun inj⟩

theorem lookup_mem {α β} [BEq α] [LawfulBEq α] (l : List (α × β)) (k : α) (b : β) (h : l.lookup k = some b) :
    (k, b) ∈ l := by
  obtain ⟨l₁, l₂, rfl, _⟩ := List.lookup_eq_some_iff.mp h
  simp

theorem inj_on_of_nodup_map {α β} (f : α → β) :
    ∀ (l : List α), (l.map f).Nodup → ∀ x ∈ l, ∀ y ∈ l, f x = f y → x = y :=
  fun _ h _ hx _ hy =>
    have p := List.pairwise_map.mp h
    List.Pairwise.forall_of_forall_of_flip (R := fun a b => f a = f b → a = b) (fun _ _ _ => rfl)
      (p.imp fun h e => absurd e h) (p.imp fun h e => absurd e.symm h) hx hy

/-- the symbols whose value the instance data fixes: names in the term table and, with a basic PUSH, the
    constants it may push -/
inductive Tabled (I : Inst) : SV → Prop
  | var {s t} (h : I.term.lookup s = some t) : Tabled I (.var s)
  | num {n} (hpb : hasPushBasic I = true) (h0 : 0 ≤ n) (hl : n < I.intLimit) : Tabled I (.num n)

theorem tabled_of_dom (I : Inst) (hok : svsOk I = true) (x : SV) (hx : Dom I x) : Tabled I x := by
  rcases hx with hx | ⟨⟨ins, hm, hk⟩, n, rfl, h0, hl⟩
  · have := List.all_eq_true.mp hok x hx
    cases x with
    | var s => exact (Option.isSome_iff_exists.mp this).elim fun t ht => .var ht
    | num n =>
      simp only [Bool.and_eq_true, decide_eq_true_eq, and_assoc] at this
      obtain ⟨hpb, h0, hl⟩ := this
      exact .num hpb h0 hl
  · exact .num (List.any_eq_true.mpr ⟨ins, hm, by simp [hk]⟩) h0 hl

theorem tabled_inj (I : Inst) (v : Val) (hnd : (I.term.map fun p => evalI v p.2).Nodup)
    (hsep : hasPushBasic I = true → ∀ p ∈ I.term, evalI v p.2 < 0 ∨ I.intLimit ≤ evalI v p.2) :
    ∀ x y, Tabled I x → Tabled I y → valOf I v x = valOf I v y → x = y := by
  -- a name in the table and a constant that may be pushed have different values
  have mixed : ∀ {s t n}, I.term.lookup s = some t → hasPushBasic I = true → 0 ≤ n → n < I.intLimit →
      valOf I v (.var s) ≠ n := fun hs hpb h0 hl e => by
    have := hsep hpb _ (lookup_mem _ _ _ hs)
    rw [valOf_of I v (.var _) _ hs] at e
    simp only at this; omega
  rintro _ _ (⟨hs⟩ | ⟨hpb, h0, hl⟩) (⟨hs'⟩ | ⟨hpb', h0', hl'⟩) hxy
  · rw [valOf_of I v (.var _) _ hs, valOf_of I v (.var _) _ hs'] at hxy
    have := inj_on_of_nodup_map (fun p : String × F => evalI v p.2) I.term hnd _ (lookup_mem _ _ _ hs)
      _ (lookup_mem _ _ _ hs') hxy
    rw [(Prod.mk.inj this).1]
  · exact absurd (hxy.trans (valOf_num I v _)) (mixed hs hpb' h0' hl')
  · exact absurd (hxy.symm.trans (valOf_num I v _)) (mixed hs' hpb h0 hl)
  · rw [valOf_num, valOf_num] at hxy
    rw [hxy]

theorem inj_of_nodup (I : Inst) (v : Val) (hnd : (I.term.map fun p => evalI v p.2).Nodup) (hok : svsOk I = true)
    (hsep : hasPushBasic I = true → ∀ p ∈ I.term, evalI v p.2 < 0 ∨ I.intLimit ≤ evalI v p.2) :
    ∀ x y, Dom I x → Dom I y → valOf I v x = valOf I v y → x = y :=
  fun x y hx hy => tabled_inj I v hnd hsep x y (tabled_of_dom I hok x hx) (tabled_of_dom I hok y hy)

theorem pairwiseDistinct_nodup : ∀ l : List Int, pairwiseDistinct l = true → l.Nodup :=
  fun l => (pairwiseDistinct_iff l).mp

theorem evalIs_map (v : Val) : ∀ l : List F, evalIs v l = l.map (evalI v) := evalIs_eq_map v

theorem values_of_initVars (I : Inst) (v : Val) (initial : Int) (hint : I.term.all (fun p => !p.2.isBoolSorted) = true)
    (h : ∀ f ∈ initVarsRaw I initial, evalB v f = true) (i : Nat) (hi : i < I.term.length) :
    evalI v (I.term[i]).2 = initial + i := by
  have hm : (I.term[i], i) ∈ I.term.zipIdx := List.mem_zipIdx_iff_getElem?.mpr (List.getElem?_eq_getElem hi)
  have := h _ (List.mem_map_of_mem hm)
  have hb : (I.term[i]).2.isBoolSorted = false := by simpa using List.all_eq_true.mp hint _ (List.getElem_mem hi)
  simpa [evalB_eq_int v _ hb] using this

theorem nodup_of_getElem_add (l : List Int) (c : Int) (h : ∀ i (hi : i < l.length), l[i] = c + i) : l.Nodup :=
  List.pairwise_iff_getElem.mpr fun i j hi hj hij => by rw [h i hi, h j hj]; omega

/-- uninterpreted term encodings (no basic PUSH): the `distinct` constraint makes values identify stack variables -/
theorem inj_uf (I : Inst) (v : Val) (h : evalB v (distinctRaw I) = true) (hok : svsOk I = true)
    (hpb : hasPushBasic I = false) :
    ∀ x y, Dom I x → Dom I y → valOf I v x = valOf I v y → x = y :=
  inj_of_nodup I v (by simpa [distinctRaw, evalB_distinct, Function.comp_def] using h) hok
    (fun h' => absurd h' (by simp [hpb]))

/-- `-term-encoding stack_vars`: the initialisation constraints make values identify stack variables -/
theorem inj_stackVars (I : Inst) (v : Val) (initial : Int) (hint : I.term.all (fun p => !p.2.isBoolSorted) = true)
    (h : ∀ f ∈ initVarsRaw I initial, evalB v f = true) (hok : svsOk I = true)
    (hinit : hasPushBasic I = true → I.intLimit ≤ initial) :
    ∀ x y, Dom I x → Dom I y → valOf I v x = valOf I v y → x = y := by
  have hv := values_of_initVars I v initial hint h
  refine inj_of_nodup I v (nodup_of_getElem_add _ initial fun i hi => ?_) hok fun hpb p hp => ?_
  · simpa using hv i (by simpa using hi)
  · obtain ⟨i, hi, rfl⟩ := List.getElem_of_mem hp
    have := hv i hi
    have := hinit hpb
    exact Or.inr (by omega)

theorem inj_int (I : Inst) (v : Val) (hdata : intTermsOk I = true) (hok : svsOk I = true) :
    ∀ x y, Dom I x → Dom I y → valOf I v x = valOf I v y → x = y := by
  simp only [intTermsOk, Bool.and_eq_true, List.all_eq_true, Bool.or_eq_true, Bool.not_eq_true', and_assoc] at hdata
  obtain ⟨hnum, hpd, hsep⟩ := hdata
  have hk : ∀ p ∈ I.term, ∃ k, p.2 = .num k := fun p hp =>
    match p.2, hnum p hp with
    | .num k, _ => ⟨k, rfl⟩
  have hmap : (I.term.map fun p => evalI v p.2) = I.term.map fun p => match p.2 with | .num k => k | _ => 0 :=
    List.map_congr_left fun p hp => by obtain ⟨k, hk⟩ := hk p hp; simp [hk]
  refine inj_of_nodup I v (hmap ▸ pairwiseDistinct_nodup _ hpd) hok fun hpb p hp => ?_
  obtain ⟨k, hk⟩ := hk p hp
  have := hsep.resolve_left (by simp [hpb]) p hp
  exact Or.inr (by simpa [hk] using this)
end GasolVerif.Enc
