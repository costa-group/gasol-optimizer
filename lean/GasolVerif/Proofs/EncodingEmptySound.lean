/-
  C06: soundness of the `-empty` encoding (Models/EncodingEmpty.lean).  A cell is in use when its value is not the
  `empty` constant (`Occ`), values — hence occupancy — move with `move_only_x_j_i`; the constraints then read as
  `Reads` for that occupancy (`transRawE_reads`), and `step_soundE` / `core_soundE` follow from the general stack
  lemmas of `EncodingStack`; `notEmpty_of_nodup` discharges "no stack variable has the empty value".
-/
import GasolVerif.Models.EncodingEmpty
import GasolVerif.Proofs.EncodingSound
namespace GasolVerif.Enc
open GasolVerif.Formula

def Ev (v : Val) (e : F) : Int := evalI v e
def Occ (v : Val) (e : F) (i j : Nat) : Bool := X v i j != Ev v e

/-- the `empty` term is integer sorted (an executable premise: it is a constant of the evm sort or an integer) -/
def emptySorted (e : F) : Bool := !e.isBoolSorted

abbrev HeightE (I : Inst) (v : Val) (e : F) (j h : Nat) : Prop := HeightP I.bs (Occ v e) j h

theorem occ_false (v : Val) (e : F) (i j : Nat) : Occ v e i j = false ↔ X v i j = Ev v e := by simp [Occ]
theorem occ_true (v : Val) (e : F) (i j : Nat) : Occ v e i j = true ↔ X v i j ≠ Ev v e := by simp [Occ]

theorem occ_of_val {v : Val} {e : F} {i j : Nat} {a : Int} (hx : X v i j = a) (ha : a ≠ Ev v e) : Occ v e i j = true :=
  (occ_true v e i j).mpr (hx ▸ ha)

theorem occ_congr {v : Val} (e : F) {i j i' j' : Nat} (hx : X v i j = X v i' j') : Occ v e i j = Occ v e i' j' := by
  simp [Occ, hx]

theorem evalB_isE (v : Val) (e : F) (i j : Nat) : evalB v (isE e i j) = !Occ v e i j := by
  simp [isE, Occ, Ev, bne]

theorem evalB_notE (v : Val) (e : F) (i j : Nat) : evalB v (notE e i j) = Occ v e i j := by
  rw [Bool.eq_iff_iff, notE, evalB_distinct, occ_true]; simp [Ev]

/-- `move_only_x_j_i`: values move, hence occupancy moves with them -/
theorem moveX_reads (v : Val) (e : F) (j al be : Nat) (d : Int) :
    evalB v (moveX j al be d) = true ↔ Moves (Occ v e) v j al be d := by
  unfold moveX
  split
  · rename_i h; simpa using moves_of_gt (Int.ofNat_lt.mpr h)
  · unfold Moves
    simp only [evalB_and, evalAll_map, mem_rangeL, evalB_eq_x, evalI_xA, beq_iff_eq]
    exact ⟨fun hh i h1 h2 => ⟨occ_congr e (hh i ⟨h1, by omega⟩), hh i ⟨h1, by omega⟩⟩,
      fun hh i hi => (hh i hi.1 (by omega)).2⟩

theorem moveXI_reads (v : Val) (e : F) (j al : Nat) (be d : Int) :
    evalB v (moveXI j al be d) = true ↔ Moves (Occ v e) v j al be d := by
  unfold moveXI
  split
  · rename_i h; simpa using moves_of_gt h
  · rename_i h; rw [moveX_reads v e, moves_toNat h]

/-- the stack variables of the instance (and the constants a basic PUSH may push) are not the `empty` value -/
structure NotEmpty (I : Inst) (v : Val) (e : F) : Prop where
  svs : ∀ x ∈ allSVs I, valOf I v x ≠ Ev v e
  pushed : (∃ ins ∈ I.instrs, ins.kind = .pushBasic) → ∀ a : Int, 0 ≤ a → a < I.intLimit → a ≠ Ev v e

/-- cells said to hold the values of stack variables are in use: none of those values is `empty` -/
theorem holdsE_of_eval (I : Inst) (v : Val) (e : F) (j : Nat) (o : List SV) (ts : List F) (hts : o.mapM (svF I) = some ts)
    (hne : ∀ x ∈ o, valOf I v x ≠ Ev v e) (hf : ∀ p ∈ ts.zipIdx, X v p.2 j = evalI v p.1) :
    Holds (Occ v e) v j (o.map (valOf I v)) := by
  rw [← List.forall_mem_map (P := (· ≠ Ev v e)), ← mapM_svF_eval I v o ts hts] at hne
  rw [← mapM_svF_eval I v o ts hts, holds_map_iff]
  exact fun p hp => ⟨occ_of_val (hf p hp) (hne _ (List.mem_map_of_mem (List.fst_mem_of_mem_zipIdx hp))), hf p hp⟩

theorem transRawE_reads (I : Inst) (v : Val) (e : F) (he : emptyF I = some e) (hne : NotEmpty I v e) (ins : Instr)
    (hm : ins ∈ I.instrs) (j : Nat) (raw : F) (hraw : transRawE I ins j = some raw) (hc : evalB v raw = true)
    (ht : T v j = thetaV I v ins.theta) : Reads I (Occ v e) v (valOf I v) j ins.kind := by
  have hsv : ∀ x ∈ ins.kind.svs, valOf I v x ≠ Ev v e := fun x hx => hne.svs x (mem_allSVs_of_kind hm hx)
  obtain ⟨th, id, k, lb, ub⟩ := ins
  cases k <;>
    simp only [transRawE, he, Option.bind_eq_bind, Option.bind_some, Option.bind_eq_some_iff, Option.some.injEq,
      Kind.svs, List.forall_mem_cons] at hraw hsv
  -- these three constraints state every conjunct of `Reads`, in its order
  case nop | pop => subst hraw; simpa [Reads, ht, evalAll, evalB_notE, evalB_isE, moveX_reads v e] using hc
  case popU =>
    obtain ⟨t0, h0, rfl⟩ := hraw
    simpa [Reads, ht, evalAll, evalB_notE, evalB_isE, moveX_reads v e, valOf_of I v _ _ h0] using hc
  -- the others leave out "cell in use" where a value that is not `empty` implies it
  case pushBasic =>
    subst hraw
    simp [ht, evalAll, evalB_isE, moveXI_reads v e] at hc
    obtain ⟨h1, h2, hfull, hx, hmv⟩ := hc
    exact ⟨h1, h2, hfull, occ_of_val hx (hne.pushed ⟨_, hm, rfl⟩ _ h1 h2), hx, hmv⟩
  case dup k =>
    subst hraw
    simp [ht, evalAll, evalB_notE, evalB_isE, moveXI_reads v e] at hc
    obtain ⟨hfull, hk1, hx, hmv⟩ := hc
    exact ⟨hfull, hk1, (occ_congr e hx).trans hk1, hx, hmv⟩
  case swap k =>
    subst hraw
    simp [ht, evalAll, evalB_notE, moveX_reads v e] at hc
    obtain ⟨hkj, hx0, h0j, hxk, hm1, hm2⟩ := hc
    exact ⟨hkj, (occ_congr e hx0).trans hkj, hx0, (occ_congr e hxk).trans h0j, hxk, hm1, hm2⟩
  case store o0 o1 =>
    obtain ⟨t0, h0, t1, h1, rfl⟩ := hraw
    simp [ht, evalAll, evalB_isE, moveX_reads v e, ← valOf_of I v _ _ h0, ← valOf_of I v _ _ h1] at hc
    obtain ⟨hx0, hx1, hmv, hl1, hl2⟩ := hc
    exact ⟨occ_of_val hx0 hsv.1, occ_of_val hx1 hsv.2.1, ⟨hx0, hx1⟩, hmv, hl1, hl2⟩
  case comm o0 o1 r =>
    obtain ⟨t0, h0, t1, h1, tr, h2, rfl⟩ := hraw
    simp [ht, evalAll, evalAny, evalB_isE, moveX_reads v e, ← valOf_of I v _ _ h0, ← valOf_of I v _ _ h1,
      ← valOf_of I v _ _ h2] at hc
    obtain ⟨hor, hxr, hmv, hl1⟩ := hc
    obtain ⟨h0, h1, hr, -⟩ := hsv
    exact ⟨hor.elim (fun hx => occ_of_val hx.1 h0) fun hx => occ_of_val hx.1 h1,
      hor.elim (fun hx => occ_of_val hx.2 h1) fun hx => occ_of_val hx.2 h0, hor, occ_of_val hxr hr, hxr, hmv, hl1⟩
  case nonComm o r =>
    obtain ⟨ts, h0, tr, h2, rfl⟩ := hraw
    simp only [evalB_imp, evalB_isT, ht, beq_self_eq_true, Bool.not_true, Bool.false_or, evalB_and, evalAll,
      Bool.and_eq_true, evalB_andOrTrue, evalAll_append, evalAll_map, mem_rangeL, moveXI_reads v e, evalB_isE, evalB_eq_x,
      beq_iff_eq, Bool.not_eq_true', and_true, and_imp, and_assoc, ← valOf_of I v _ _ h2] at hc
    obtain ⟨hf, hs, ht3, hxr, hmv⟩ := hc
    exact ⟨holdsE_of_eval I v e j o ts h0 hsv.2 hf, hs, ht3, occ_of_val hxr hsv.1, hxr, hmv⟩

theorem step_soundE (I : Inst) (v : Val) (e : F) (he : emptyF I = some e) (hne : NotEmpty I v e) (ins : Instr)
    (hm : ins ∈ I.instrs) (j h : Nat) (hh : HeightE I v e j h)
    (hfit : kindFits I.bs ins.kind = true) (raw : F) (hraw : transRawE I ins j = some raw)
    (hc : evalB v raw = true) (ht : T v j = thetaV I v ins.theta) :
    ∃ h', HeightE I v e (j + 1) h' ∧
      stepVal I (valOf I v) ins.kind (A v j) (stk v j h) = some (stk v (j + 1) h') :=
  reads_sound I (Occ v e) v (valOf I v) j h hh ins.kind hfit (transRawE_reads I v e he hne ins hm j raw hraw hc ht)

theorem stackAtE_reads (I : Inst) (v : Val) (e : F) (he : emptyF I = some e) (j : Nat) (st : List SV) (fs : List F)
    (hfs : stackAtRawE I j st = some fs) (hsat : ∀ f ∈ fs, evalB v f = true)
    (hE : ∀ x ∈ st, valOf I v x ≠ Ev v e) :
    Holds (Occ v e) v j (st.map (valOf I v)) ∧ FreeFrom I.bs (Occ v e) j st.length := by
  simp only [stackAtRawE, he, Option.bind_eq_bind, Option.bind_some, Option.bind_eq_some_iff, Option.some.injEq] at hfs
  obtain ⟨ts, hts, rfl⟩ := hfs
  simp only [← evalAll_iff, evalAll_append, Bool.and_eq_true, evalAll_map, evalB_eq_x, evalB_isE, beq_iff_eq,
    Bool.not_eq_true', mem_rangeL, and_imp] at hsat
  exact ⟨holdsE_of_eval I v e j st ts hts hE hsat.1, hsat.2⟩

theorem core_soundE (I : Inst) (v : Val) (e : F) (he : emptyF I = some e) (hne : NotEmpty I v e)
    (raws : List F) (hraw : coreRawE I = some raws)
    (hsat : ∀ f ∈ raws, evalB v f = true) (hok : instOk I = true) :
    ∃ steps : List (Kind × Int), steps.length = I.b0 ∧ Decodes I v steps ∧
      runVal I (valOf I v) steps (I.src.map (valOf I v)) = some (I.tgt.map (valOf I v)) :=
  run_of_core I v (Occ v e) (transRawE I) (stackAtRawE I) raws hraw hsat hok
    (fun ins hm j raw => transRawE_reads I v e he hne ins hm j raw)
    (fun j st fs hst h1 h2 => stackAtE_reads I v e he j st fs h1 h2 fun x hx => hne.svs x (by
      rcases hst with rfl | rfl <;> simp [allSVs, hx]))

theorem notEmpty_of_nodup (I : Inst) (v : Val) (e : F) (he : emptyF I = some e)
    (hnd : (I.term.map fun p => evalI v p.2).Nodup) (hok : svsOk I = true)
    (hnoE : (allSVs I).all (fun x => x != .var "empty") = true)
    (hsep : hasPushBasic I = true → ∀ p ∈ I.term, evalI v p.2 < 0 ∨ I.intLimit ≤ evalI v p.2) :
    NotEmpty I v e := by
  -- `empty` is one more entry of the term table, so this is an instance of `tabled_inj`
  have key : ∀ x, Dom I x → valOf I v x = Ev v e → x = .var "empty" := fun x hx h =>
    tabled_inj I v hnd hsep x _ (tabled_of_dom I hok x hx) (.var he)
      (h.trans (valOf_of I v (.var "empty") e he).symm)
  simp only [List.all_eq_true, bne_iff_ne, ne_eq] at hnoE
  exact ⟨fun x hx hval => hnoE x hx (key x (Or.inl hx) hval), fun hpb a h0 hl hval =>
    nomatch key (.num a) (Or.inr ⟨hpb, a, rfl, h0, hl⟩) ((valOf_num I v a).trans hval)⟩

end GasolVerif.Enc
