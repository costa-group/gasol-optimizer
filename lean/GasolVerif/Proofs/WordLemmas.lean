/-
  Identities on 256-bit EVM words: the ones the normaliser's soundness proof uses and the ones the rule
  inventory (C03) certifies.  Families are proved once and closed under commutativity.
-/
import GasolVerif.Word
namespace GasolVerif
namespace Word

theorem toNat_zero' : (0#256).toNat = 0 := rfl
theorem toNat_one' : (1#256).toNat = 1 := rfl

theorem ofBool_congr {p q : Prop} [Decidable p] [Decidable q] (h : p ↔ q) :
    ofBool (decide p) = ofBool (decide q) := by
  rw [decide_eq_decide.mpr h]

theorem toNat_pos_iff (x : Word) : 0 < x.toNat ↔ ¬ x = 0#256 :=
  (BitVec.toNat_pos x).trans (BitVec.pos_iff_ne_zero x)

theorem iszero_eq_ofBool (x : Word) : iszero x = ofBool (decide (x = 0#256)) := rfl

@[simp] theorem iszero_ofBool (b : Bool) : iszero (ofBool b) = ofBool (!b) := by
  cases b <;> rfl

theorem iszero_iszero_ofBool (b : Bool) : iszero (iszero (ofBool b)) = ofBool b := by simp

theorem iszero_iszero_iszero (x : Word) : iszero (iszero (iszero x)) = iszero x := by
  rw [iszero_eq_ofBool x, iszero_iszero_ofBool]

theorem isBool_iszero_iszero (f : Word → Word → Word) (x y : Word) (b : Bool) (h : f x y = ofBool b) :
    iszero (iszero (f x y)) = f x y := by rw [h, iszero_iszero_ofBool]

-- `lt a b` and `gt b a` unfold to the same term, and so do `slt a b` and `sgt b a`
theorem gt_self (a : Word) : gt a a = 0#256 := by simp [gt, ofBool]
theorem lt_self (a : Word) : lt a a = 0#256 := gt_self a
theorem sgt_self (a : Word) : sgt a a = 0#256 := by simp [sgt, ofBool]
theorem slt_self (a : Word) : slt a a = 0#256 := sgt_self a
theorem gt_zero_left (x : Word) : gt 0#256 x = 0#256 := by simp [gt, ofBool]
theorem lt_zero_right (x : Word) : lt x 0#256 = 0#256 := gt_zero_left x

theorem gt_zero (x : Word) : gt x 0#256 = iszero (iszero x) := by
  show gt x 0#256 = iszero (ofBool (decide (x = 0#256)))
  rw [iszero_ofBool, ← decide_not]
  exact ofBool_congr (toNat_pos_iff x)

theorem lt_zero_left (x : Word) : lt 0#256 x = iszero (iszero x) := gt_zero x

theorem gt_one_left (x : Word) : gt 1#256 x = iszero x :=
  ofBool_congr (by rw [toNat_one', Nat.lt_one_iff]; exact (BitVec.toNat_eq (y := 0#256)).symm)

theorem lt_one_right (x : Word) : lt x 1#256 = iszero x := gt_one_left x

theorem iszero_gt_zero (x : Word) : iszero (gt x 0#256) = iszero x := by
  rw [gt_zero, iszero_iszero_iszero]

theorem iszero_lt_zero (x : Word) : iszero (lt 0#256 x) = iszero x := iszero_gt_zero x

theorem not_not (x : Word) : not (not x) = x := by simp [not]

-- the `…_right` and the primed forms follow from the `…_left` form by commutativity
theorem and_comm' (a b : Word) : and a b = and b a := BitVec.and_comm a b
theorem or_comm' (a b : Word) : or a b = or b a := BitVec.or_comm a b
theorem xor_comm' (a b : Word) : xor a b = xor b a := BitVec.xor_comm a b

theorem and_zero_left (b : Word) : and 0#256 b = 0#256 := BitVec.zero_and
theorem and_max_left (b : Word) : and (BitVec.allOnes 256) b = b := BitVec.allOnes_and
theorem and_self (a : Word) : and a a = a := BitVec.and_self
theorem and_assoc_const (w w' y : Word) : and w (and w' y) = and (w &&& w') y :=
  (BitVec.and_assoc w w' y).symm
theorem and_not_self (x : Word) : and x (not x) = 0#256 := BitVec.and_not_self x
theorem not_and_self (x : Word) : and (not x) x = 0#256 := by rw [and_comm', and_not_self]
theorem and_and_left (p q : Word) : and p (and p q) = and p q := by
  rw [and_assoc_const, BitVec.and_self]
theorem and_or_left (p q : Word) : and p (or p q) = p := by
  ext i hi
  simp only [and, or, BitVec.getElem_and, BitVec.getElem_or]
  cases p[i] <;> rfl
theorem and_and_right (p q : Word) : and q (and p q) = and p q := by rw [and_comm' p q, and_and_left]
theorem and_or_right (p q : Word) : and q (or p q) = q := by rw [or_comm' p q, and_or_left]
theorem and_and_left' (p q : Word) : and (and p q) p = and p q := by rw [and_comm', and_and_left]
theorem and_and_right' (p q : Word) : and (and p q) q = and p q := by rw [and_comm', and_and_right]
theorem and_or_left' (p q : Word) : and (or p q) p = p := by rw [and_comm', and_or_left]
theorem and_or_right' (p q : Word) : and (or p q) q = q := by rw [and_comm', and_or_right]

theorem or_zero_left (b : Word) : or 0#256 b = b := BitVec.zero_or
theorem or_max_left (b : Word) : or (BitVec.allOnes 256) b = BitVec.allOnes 256 := BitVec.allOnes_or
theorem or_self (a : Word) : or a a = a := BitVec.or_self
theorem or_assoc_const (w w' y : Word) : or w (or w' y) = or (w ||| w') y :=
  (BitVec.or_assoc w w' y).symm
theorem or_not_self (x : Word) : or x (not x) = BitVec.allOnes 256 := BitVec.or_not_self x
theorem not_or_self (x : Word) : or (not x) x = BitVec.allOnes 256 := by rw [or_comm', or_not_self]
theorem or_or_left (p q : Word) : or p (or p q) = or p q := by
  rw [or_assoc_const, BitVec.or_self]
theorem or_and_left (p q : Word) : or p (and p q) = p := by
  ext i hi
  simp only [and, or, BitVec.getElem_and, BitVec.getElem_or]
  cases p[i] <;> rfl
theorem or_or_right (p q : Word) : or q (or p q) = or p q := by rw [or_comm' p q, or_or_left]
theorem or_and_right (p q : Word) : or q (and p q) = q := by rw [and_comm' p q, or_and_left]
theorem or_or_left' (p q : Word) : or (or p q) p = or p q := by rw [or_comm', or_or_left]
theorem or_or_right' (p q : Word) : or (or p q) q = or p q := by rw [or_comm', or_or_right]
theorem or_and_left' (p q : Word) : or (and p q) p = p := by rw [or_comm', or_and_left]
theorem or_and_right' (p q : Word) : or (and p q) q = q := by rw [or_comm', or_and_right]

theorem xor_zero_left (b : Word) : xor 0#256 b = b := BitVec.zero_xor
theorem xor_self (a : Word) : xor a a = 0#256 := BitVec.xor_self
theorem xor_xor_left (p q : Word) : xor p (xor p q) = q := by
  rw [xor, xor, ← BitVec.xor_assoc, BitVec.xor_self, BitVec.zero_xor]
theorem xor_xor_right (p q : Word) : xor q (xor p q) = p := by rw [xor_comm' p q, xor_xor_left]
theorem xor_xor_left' (p q : Word) : xor (xor p q) p = q := by rw [xor_comm', xor_xor_left]
theorem xor_xor_right' (p q : Word) : xor (xor p q) q = p := by rw [xor_comm', xor_xor_right]

theorem eq_self (a : Word) : eq a a = 1#256 := by simp [eq, ofBool]
theorem eq_comm' (x y : Word) : eq x y = eq y x := ofBool_congr eq_comm
theorem eq_zero_left (x : Word) : eq 0#256 x = iszero x := ofBool_congr eq_comm
theorem eq_one_ofBool (b : Bool) : eq 1#256 (ofBool b) = ofBool b := by
  cases b <;> decide
theorem iszero_xor (x y : Word) : iszero (xor x y) = eq x y := ofBool_congr BitVec.xor_eq_zero_iff
theorem iszero_sub (x y : Word) : iszero (sub x y) = eq x y :=
  ofBool_congr (by rw [sub, BitVec.sub_eq_iff_eq_add, BitVec.zero_add])
theorem eq_xor_const (w w' y : Word) : eq w (xor w' y) = eq (w ^^^ w') y :=
  ofBool_congr (by
    rw [xor, ← BitVec.xor_right_inj w', ← BitVec.xor_assoc, BitVec.xor_self, BitVec.zero_xor,
      BitVec.xor_comm])
theorem eq_xor_same (w y : Word) : eq w (xor w y) = iszero y := by
  rw [eq_xor_const, BitVec.xor_self, eq_zero_left]
theorem eq_xor_same_right (w y : Word) : eq w (xor y w) = iszero y := by
  rw [xor_comm', eq_xor_same]

theorem add_zero_left (b : Word) : add 0#256 b = b := by simp [add]
theorem add_comm' (a b : Word) : add a b = add b a := by simp [add, BitVec.add_comm]
theorem add_assoc_const (w w' y : Word) : add w (add w' y) = add (w + w') y := by
  simp [add, BitVec.add_assoc]
theorem mul_zero_left (b : Word) : mul 0#256 b = 0#256 := by simp [mul]
theorem mul_one_left (b : Word) : mul 1#256 b = b := by simp [mul]
theorem mul_comm' (a b : Word) : mul a b = mul b a := by simp [mul, BitVec.mul_comm]

theorem sub_self (a : Word) : sub a a = 0#256 := by simp [sub]
theorem sub_zero (a : Word) : sub a 0#256 = a := by simp [sub]
theorem div_zero (a : Word) : div a 0#256 = 0#256 := by simp [div]
theorem div_one (a : Word) : div a 1#256 = a := by simp [div]
theorem zero_div (b : Word) : div 0#256 b = 0#256 := by rw [div, BitVec.zero_udiv, ite_self]
theorem sdiv_zero (a : Word) : sdiv a 0#256 = 0#256 := by simp [sdiv]
theorem sdiv_one (a : Word) : sdiv a 1#256 = a := by simp [sdiv, BitVec.sdiv_one]
theorem zero_sdiv (b : Word) : sdiv 0#256 b = 0#256 := by rw [sdiv, BitVec.zero_sdiv, ite_self]
theorem mod_self (a : Word) : mod a a = 0#256 := by rw [mod, BitVec.umod_self, ite_self]
theorem mod_zero (a : Word) : mod a 0#256 = 0#256 := by simp [mod]
theorem mod_one (a : Word) : mod a 1#256 = 0#256 := by simp [mod, BitVec.umod_one]

-- `MUL` and `DIV` by `2^k` are shifts; `SHL(y, 1)` is `2^y` for `y < 256` and 0 from there on
theorem toNat_ofNat_lt {k : Nat} (hk : k < 256) : (BitVec.ofNat 256 k).toNat = k :=
  (BitVec.toNat_ofNat k 256).trans (Nat.mod_eq_of_lt (by omega))

theorem twoPow_ne_zero {k : Nat} (hk : k < 256) : BitVec.twoPow 256 k ≠ 0#256 := fun h0 => by
  have := congrArg BitVec.toNat h0
  rw [BitVec.toNat_twoPow_of_lt hk] at this
  exact Nat.ne_of_gt (Nat.two_pow_pos k) this

theorem div_twoPow (a : Word) (k : Nat) (hk : k < 256) : div a (1#256 <<< k) = shr (BitVec.ofNat 256 k) a := by
  rw [← BitVec.twoPow_eq]
  simp [div, shr, toNat_ofNat_lt hk, hk, twoPow_ne_zero hk, BitVec.udiv_twoPow_eq_of_lt hk]

theorem mul_twoPow (b : Word) (k : Nat) (hk : k < 256) : mul (1#256 <<< k) b = shl (BitVec.ofNat 256 k) b := by
  rw [← BitVec.twoPow_eq, mul_comm']
  simp [mul, shl, toNat_ofNat_lt hk, hk, BitVec.mul_twoPow_eq_shiftLeft]

theorem shl_one (y : Word) (h : y.toNat < 256) : shl y 1#256 = 1#256 <<< y.toNat := if_pos h

theorem shl_one_mul (x y : Word) : mul (shl y 1#256) x = shl y x := by
  by_cases h : y.toNat < 256
  · rw [shl_one y h, mul_twoPow _ _ h, BitVec.ofNat_toNat, BitVec.setWidth_eq]
  · simp [mul, shl, h]

theorem mul_shl_one (x y : Word) : mul x (shl y 1#256) = shl y x := by
  rw [mul_comm', shl_one_mul]

theorem div_shl_one (x y : Word) : div x (shl y 1#256) = shr y x := by
  by_cases h : y.toNat < 256
  · rw [shl_one y h, div_twoPow _ _ h, BitVec.ofNat_toNat, BitVec.setWidth_eq]
  · simp [div, shl, shr, h]

theorem shl_zero_left (x : Word) : shl 0#256 x = x := by simp [shl]
theorem shr_zero_left (x : Word) : shr 0#256 x = x := by simp [shr]
theorem sar_zero_left (x : Word) : sar 0#256 x = x := by simp [sar]
theorem shl_big (w x : Word) (h : 256 ≤ w.toNat) : shl w x = 0#256 := if_neg (Nat.not_lt.2 h)
theorem shr_big (w x : Word) (h : 256 ≤ w.toNat) : shr w x = 0#256 := if_neg (Nat.not_lt.2 h)
theorem shl_zero_right (a : Word) : shl a 0#256 = 0#256 := by rw [shl, BitVec.zero_shiftLeft, ite_self]
theorem shr_zero_right (a : Word) : shr a 0#256 = 0#256 := by rw [shr, BitVec.zero_ushiftRight, ite_self]

theorem and_shl_shl (s y z : Word) : and (shl s y) (shl s z) = shl s (and y z) := by
  simp only [and, shl]
  split
  · rw [BitVec.shiftLeft_and_distrib]
  · simp

theorem and_const_shl (w k z : Word) (hk : k.toNat < 256) (hw : (w >>> k.toNat) <<< k.toNat = w) :
    and w (shl k z) = shl k (and (w >>> k.toNat) z) := by
  simp only [and, shl, hk, if_true]
  rw [BitVec.shiftLeft_and_distrib, hw]

theorem sq_pow (a : Word) (k : Nat) : (a * a) ^ k = a ^ (2 * k) := by
  rw [Nat.two_mul, BitVec.pow_add]
  induction k with
  | zero => rfl
  | succ k ih => rw [BitVec.pow_succ, BitVec.pow_succ, ih]; ac_rfl

theorem wpow_eq (a : Word) (n : Nat) : wpow a n = a ^ n := by
  -- with `r = (a * a) ^ (n / 2) = a ^ (2 * (n / 2))`
  fun_induction wpow a n with
  | case1 => rfl                    -- `n = 0`
  | case2 a n _ r hodd ih =>        -- `n` odd: `a * r`
    rw [show r = _ from ih, sq_pow, BitVec.mul_comm, ← BitVec.pow_succ]; congr 1; omega
  | case3 a n _ r heven ih =>       -- `n` even: `r`
    rw [show r = _ from ih, sq_pow]; congr 1; omega

theorem exp_zero (a : Word) : exp a 0#256 = 1#256 := by simp [exp, wpow_eq]
theorem exp_one (a : Word) : exp a 1#256 = a := by
  simp [exp, wpow_eq, BitVec.pow_succ]
theorem one_pow' (n : Nat) : (1#256) ^ n = 1#256 := by
  induction n with
  | zero => simp
  | succ n ih => rw [BitVec.pow_succ, ih]; simp
theorem one_exp (b : Word) : exp 1#256 b = 1#256 := by simp [exp, wpow_eq, one_pow']
theorem zero_pow' (n : Nat) (h : n ≠ 0) : (0#256) ^ n = 0#256 := by
  cases n with
  | zero => exact absurd rfl h
  | succ n => rw [BitVec.pow_succ]; simp
theorem zero_exp (x : Word) : exp 0#256 x = iszero x := by
  simp only [exp, wpow_eq, iszero]
  by_cases h : x = 0#256
  · subst h; simp [ofBool]
  · have := Nat.pos_iff_ne_zero.mp ((toNat_pos_iff x).mpr h)
    simp [h, zero_pow' _ this, ofBool]
theorem two_pow' (n : Nat) : (2#256) ^ n = 1#256 <<< n := by
  induction n with
  | zero => simp
  | succ n ih =>
    rw [BitVec.pow_succ, ih]
    have : (2#256) = BitVec.twoPow 256 1 := by decide
    rw [this, BitVec.mul_twoPow_eq_shiftLeft, BitVec.shiftLeft_add]
theorem two_exp (x : Word) : exp 2#256 x = shl x 1#256 := by
  simp only [exp, wpow_eq, two_pow', shl]
  split
  · rfl
  · rename_i h
    exact BitVec.shiftLeft_eq_zero (by omega)

end Word

theorem BinOp.comm_sound (op : BinOp) (h : op.comm = true) (a b : Word) : op.sem a b = op.sem b a := by
  -- `h` leaves the six commutative operators
  cases op <;> simp only [BinOp.comm, Bool.false_eq_true] at h
  · exact Word.add_comm' a b
  · exact Word.mul_comm' a b
  · exact Word.eq_comm' a b
  · exact Word.and_comm' a b
  · exact Word.or_comm' a b
  · exact Word.xor_comm' a b

end GasolVerif
