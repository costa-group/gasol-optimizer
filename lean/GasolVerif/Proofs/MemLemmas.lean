/-
  The two state spaces as the proofs see them.  Memory, at bit level: a word read sees exactly the 32 bytes at
  its address, so reading back a written word returns it and writing back a read word changes nothing.  Then
  for memory and for storage the same few facts about writes: nothing changes off the written range, writes
  to disjoint places commute, the later write to a place wins, states that agree off a place agree after a
  write to it.
-/
import GasolVerif.Evm
namespace GasolVerif
namespace Mem

/-- bit `r` of byte `k` (counted from the low end) of an `n`-byte read: a bit of the byte at offset `i = n - 1 - k` -/
theorem readBytes_getLsbD (m : Mem) (a : Nat) {n k i r : Nat} (h : k + i + 1 = n) (hn : n ≤ 32) (hr : r < 8) :
    (readBytes m a n).getLsbD (8 * k + r) = (m (a + i)).getLsbD r := by
  induction n generalizing k with
  | zero => cases h
  | succ n ih =>
    rw [readBytes, BitVec.getLsbD_or, BitVec.getLsbD_shiftLeft, BitVec.getLsbD_setWidth]
    cases k with
    | zero =>
      obtain rfl : i = n := by omega
      have : r < 256 := by omega
      simp [hr, this]
    | succ k =>
      rw [Nat.mul_succ, Nat.add_right_comm, Nat.add_sub_cancel, ih (by omega) (by omega)]
      have : 8 * k + r + 8 < 256 := by omega
      simp [this]

theorem readBytes_congr (m₁ m₂ : Mem) (a n : Nat) (h : ∀ i, i < n → m₁ (a + i) = m₂ (a + i)) :
    readBytes m₁ a n = readBytes m₂ a n := by
  induction n with
  | zero => rfl
  | succ n ih =>
    simp only [readBytes]
    rw [ih (fun i hi => h i (by omega)), h n (by omega)]

theorem readWord_congr (m₁ m₂ : Mem) (a : Nat) (h : ∀ i, i < 32 → m₁ (a + i) = m₂ (a + i)) :
    readWord m₁ a = readWord m₂ a := readBytes_congr m₁ m₂ a 32 h

theorem wordByte_getLsbD (v : Word) (i j : Nat) :
    (wordByte v i).getLsbD j = (decide (j < 8) && v.getLsbD (8 * (31 - i) + j)) := by
  simp [wordByte, BitVec.getLsbD_setWidth, BitVec.getLsbD_ushiftRight]

theorem writeWord_in (m : Mem) (a : Nat) (v : Word) (i : Nat) (h : i < 32) :
    (writeWord m a v) (a + i) = wordByte v i := by
  simp [writeWord, h]

theorem writeWord_out (m : Mem) (a : Nat) (v : Word) (j : Nat) (h : j < a ∨ a + 32 ≤ j) :
    (writeWord m a v) j = m j :=
  if_neg (by omega)

theorem readWord_writeWord_same (m : Mem) (a : Nat) (v : Word) : readWord (writeWord m a v) a = v := by
  apply BitVec.eq_of_getLsbD_eq
  intro j hj
  have hr : j % 8 < 8 := Nat.mod_lt _ (by omega)
  rw [← Nat.div_add_mod j 8, readWord, readBytes_getLsbD (i := 31 - j / 8) _ _ (by omega) (Nat.le_refl _) hr,
    writeWord_in m a v _ (by omega), wordByte_getLsbD]
  have h3 : 31 - (31 - j / 8) = j / 8 := by omega
  simp [hr, h3]

theorem wordByte_readWord (m : Mem) (a i : Nat) (h : i < 32) : wordByte (readWord m a) i = m (a + i) := by
  apply BitVec.eq_of_getLsbD_eq
  intro j hj
  rw [wordByte_getLsbD, readWord, readBytes_getLsbD m a (i := i) (by omega) (Nat.le_refl _) hj]
  simp [hj]

theorem writeWord_readWord (m : Mem) (a : Nat) : writeWord m a (readWord m a) = m :=
  funext fun j => ite_eq_right_iff.2 fun h => by
    rw [wordByte_readWord m a (j - a) (by omega)]; congr 1; omega

end Mem

namespace Norm

/-- the byte ranges `[A, A+sa)` and `[B, B+sb)` do not intersect -/
def Disj (A sa B sb : Nat) : Prop := A + sa ≤ B ∨ B + sb ≤ A

theorem Disj.symm {A sa B sb : Nat} (h : Disj A sa B sb) : Disj B sb A sa := Or.symm h

theorem Disj.not_mem {A sa B sb j : Nat} (h : Disj A sa B sb) (hA : A ≤ j ∧ j < A + sa)
    (hB : B ≤ j ∧ j < B + sb) : False := by
  unfold Disj at h; omega

-- the guards of the writes as membership in a range: a word write covers 32 bytes, a byte write one
theorem mem_range {A n i : Nat} (hi : i < n) : A ≤ A + i ∧ A + i < A + n :=
  ⟨Nat.le_add_right A i, Nat.add_lt_add_left hi A⟩

theorem mem_byte {j B : Nat} (h : j = B) : B ≤ j ∧ j < B + 1 := h ▸ ⟨Nat.le_refl j, Nat.lt_succ_self j⟩

/-- a write is an override under a guard; overrides with exclusive guards commute -/
theorem ite_ite_comm {α : Sort _} {P Q : Prop} [Decidable P] [Decidable Q] (a b c : α) (h : P → ¬ Q) :
    (if P then a else if Q then b else c) = if Q then b else if P then a else c := by
  by_cases hp : P
  · simp only [hp, if_true, if_neg (h hp)]
  · simp only [hp, if_false]

theorem writeWord_comm (m : Mem) (A B : Nat) (v w : Word) (h : Disj A 32 B 32) :
    (m.writeWord B w).writeWord A v = (m.writeWord A v).writeWord B w :=
  funext fun _ => ite_ite_comm _ _ _ h.not_mem

theorem writeWord_writeByte_comm (m : Mem) (A B : Nat) (v w : Word) (h : Disj A 32 B 1) :
    (m.writeByte B w).writeWord A v = (m.writeWord A v).writeByte B w :=
  funext fun _ => ite_ite_comm _ _ _ fun hA hB => h.not_mem hA (mem_byte hB)

theorem writeByte_comm (m : Mem) (A B : Nat) (v w : Word) (h : Disj A 1 B 1) :
    (m.writeByte B w).writeByte A v = (m.writeByte A v).writeByte B w :=
  funext fun _ => ite_ite_comm _ _ _ fun hA hB => h.not_mem (mem_byte hA) (mem_byte hB)

theorem writeWord_congr_outside (m₁ m₂ : Mem) (A : Nat) (v : Word)
    (h : ∀ j, j < A ∨ A + 32 ≤ j → m₁ j = m₂ j) : m₁.writeWord A v = m₂.writeWord A v :=
  funext fun j => ite_congr rfl (fun _ => rfl) fun hj => h j (by omega)

theorem writeWord_overwrite (m : Mem) (A : Nat) (v w : Word) :
    (m.writeWord A w).writeWord A v = m.writeWord A v :=
  writeWord_congr_outside _ _ A v (m.writeWord_out A w)

theorem writeByte_overwrite (m : Mem) (A : Nat) (v w : Word) :
    (m.writeByte A w).writeByte A v = m.writeByte A v :=
  funext fun _ => ite_congr rfl (fun _ => rfl) fun hj => if_neg hj

theorem writeWord_of_disj (m : Mem) {A n B : Nat} (w : Word) (h : Disj A n B 32) (i : Nat) (hi : i < n) :
    (m.writeWord B w) (A + i) = m (A + i) :=
  if_neg (h.not_mem (mem_range hi))

theorem writeByte_of_disj (m : Mem) {A n B : Nat} (w : Word) (h : Disj A n B 1) (i : Nat) (hi : i < n) :
    (m.writeByte B w) (A + i) = m (A + i) :=
  if_neg fun hB => h.not_mem (mem_range hi) (mem_byte hB)

theorem stoWrite_comm (s : Sto) (k j v w : Word) (h : k ≠ j) :
    (s.write j w).write k v = (s.write k v).write j w :=
  funext fun _ => ite_ite_comm _ _ _ fun hk hj => h (hk.symm.trans hj)

theorem stoWrite_of_ne (s : Sto) {k x : Word} (v : Word) (h : x ≠ k) : (s.write k v) x = s x := if_neg h

theorem stoWrite_congr_outside (s₁ s₂ : Sto) (k v : Word) (h : ∀ x, x ≠ k → s₁ x = s₂ x) :
    s₁.write k v = s₂.write k v :=
  funext fun x => ite_congr rfl (fun _ => rfl) (h x)

theorem stoWrite_overwrite (s : Sto) (k v w : Word) : (s.write k w).write k v = s.write k v :=
  stoWrite_congr_outside _ _ k v fun _ => stoWrite_of_ne s w

theorem stoWrite_self (s : Sto) (k : Word) : s.write k (s k) = s :=
  funext fun _ => ite_eq_right_iff.2 fun h => h ▸ rfl

end Norm
end GasolVerif
