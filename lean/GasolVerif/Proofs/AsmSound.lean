/-
  C14 / C09: splitting a block into sub-blocks at the split instructions and rebuilding it: joining the sub-blocks at the
  instruction they share gives the block, rebuilding with nothing replaced is the identity, replacing one sub-block changes
  that segment only.  `subBlocksAux` carries the sub-block being filled as an accumulator; the lemmas go along its recursion.
-/
import GasolVerif.Models.Asm
namespace GasolVerif.Asm

/-- the block being filled only goes in front of the first sub-block -/
theorem subBlocksAux_eq (body : List (String × Bool)) : ∃ h t, ∀ cur, subBlocksAux body cur = (cur.reverse ++ h) :: t := by
  induction body with
  | nil => exact ⟨[], [], fun cur => by simp [subBlocksAux]⟩
  | cons x rest ih =>
    obtain ⟨h, t, e⟩ := ih
    match x with
    | (i, true) => exact ⟨[i], subBlocksAux rest [i], fun cur => by simp [subBlocksAux]⟩
    | (i, false) => exact ⟨i :: h, t, fun cur => by simp [subBlocksAux, e]⟩

theorem subBlocksAux_ne (body : List (String × Bool)) (cur : List String) : subBlocksAux body cur ≠ [] := by
  obtain ⟨h, t, e⟩ := subBlocksAux_eq body
  simp [e]

/-! The functions over lists of sub-blocks are defined by the cases `[s]` and `s :: t :: rest`; these are their equations for
    `s :: T` with `T ≠ []`, so that `T` can be `subBlocksAux …` without being taken apart. -/
section
variable {s : List String} {T : List (List String)} (h : T ≠ [])
include h

theorem joinShared_cons : joinShared (s :: T) = s ++ (joinShared T).drop 1 := by
  cases T with | nil => exact absurd rfl h | cons _ _ => rfl

theorem sharedOf_cons : sharedOf (s :: T) = s.getLast?.toList ++ sharedOf T := by
  cases T with | nil => exact absurd rfl h | cons _ _ => rfl

theorem stripShared_cons : stripShared (s :: T) = s.dropLast :: stripShared.stripSharedTail T := by
  cases T with | nil => exact absurd rfl h | cons _ _ => rfl

theorem stripSharedTail_cons : stripShared.stripSharedTail (s :: T) = (s.drop 1).dropLast :: stripShared.stripSharedTail T := by
  cases T with | nil => exact absurd rfl h | cons _ _ => rfl

theorem stripSharedTail_ne : stripShared.stripSharedTail T ≠ [] := by
  match T, h with
  | [_], _ | _ :: _ :: _, _ => simp [stripShared.stripSharedTail]

/-- a segment that is not the last is followed by the next shared instruction, if one is left -/
theorem rebuildBody_cons (shared : List String) (repl : Nat → Option (List String)) (k : Nat) :
    rebuildBody (s :: T) shared repl k = (repl k).getD s ++ shared.head?.toList ++ rebuildBody T shared.tail repl (k + 1) := by
  cases T with
  | nil => exact absurd rfl h
  | cons _ _ => cases shared <;> simp [rebuildBody]
end

theorem rebuildBody_single (s : List String) (shared : List String) (repl : Nat → Option (List String)) (k : Nat) :
    rebuildBody [s] shared repl k = (repl k).getD s := rfl

theorem joinShared_aux (body : List (String × Bool)) (cur : List String) :
    joinShared (subBlocksAux body cur) = cur.reverse ++ body.map (·.1) := by
  fun_induction subBlocksAux body cur with
  -- the cases of `subBlocksAux`, here and below: the body is empty; a cut after `i`; no cut after `i`
  | case1 => simp [joinShared]
  | case2 i rest cur ih => simp [joinShared_cons (subBlocksAux_ne rest [i]), ih]
  | case3 i c rest cur _ ih => simp [ih]

/-- **splitting partitions the block**: joining the reported sub-blocks at their shared instruction
    gives back exactly the instruction sequence, for every choice of cut positions -/
theorem joinShared_subBlocks (body : List (String × Bool)) :
    joinShared (subBlocks body) = body.map (·.1) := by
  simp [subBlocks, joinShared_aux]

theorem sharedOk_aux (body : List (String × Bool)) (cur : List String) :
    sharedOk (subBlocksAux body cur) = true := by
  fun_induction subBlocksAux body cur with
  | case1 => rfl
  | case2 i rest cur ih =>
    obtain ⟨h, t, e⟩ := subBlocksAux_eq rest
    rw [e] at ih ⊢
    rw [sharedOk, ih]
    simp
  | case3 _ _ _ _ _ ih => exact ih

theorem sharedOk_subBlocks (body : List (String × Bool)) : sharedOk (subBlocks body) = true :=
  sharedOk_aux body []

def noRepl : Nat → Option (List String) := fun _ => none

/- `rebuild_tail` and `rebuild_head` are about `rebuildBody`, the part of `rebuild` between `pre` and `post`, on the sub-blocks after
   the first and on all of them.  Segments after the first begin with the instruction they share with their predecessor, which the
   rebuild takes from the shared list: hence `drop 1`, and `cur ≠ []` (there is a shared instruction to drop) -/
theorem rebuild_tail (body : List (String × Bool)) (cur : List String) (hc : cur ≠ []) (k : Nat) :
    rebuildBody (stripShared.stripSharedTail (subBlocksAux body cur)) (sharedOf (subBlocksAux body cur)) noRepl k
      = (cur.reverse ++ body.map (·.1)).drop 1 := by
  fun_induction subBlocksAux body cur generalizing k with
  | case1 => simp [stripShared.stripSharedTail, sharedOf, rebuildBody, noRepl]
  | case2 i rest cur ih =>
    have hT := subBlocksAux_ne rest [i]
    rw [stripSharedTail_cons hT, sharedOf_cons hT, rebuildBody_cons (stripSharedTail_ne hT)]
    simp only [List.reverse_cons, List.getLast?_concat, Option.toList, List.singleton_append, List.head?_cons, List.tail_cons,
      ih (by simp), noRepl, Option.getD_none]
    cases hcr : cur.reverse with
    | nil => exact absurd (List.reverse_eq_nil_iff.mp hcr) hc
    | cons y ys => simp
  | case3 i c rest cur _ ih => rw [ih (by simp) k]; simp

theorem rebuild_head (body : List (String × Bool)) (cur : List String) :
    rebuildBody (stripShared (subBlocksAux body cur)) (sharedOf (subBlocksAux body cur)) noRepl 0
      = cur.reverse ++ body.map (·.1) := by
  fun_induction subBlocksAux body cur with
  | case1 => simp [stripShared, sharedOf, rebuildBody, noRepl]
  | case2 i rest cur ih =>
    have hT := subBlocksAux_ne rest [i]
    rw [stripShared_cons hT, sharedOf_cons hT, rebuildBody_cons (stripSharedTail_ne hT)]
    simp [rebuild_tail rest [i] (by simp) 1, noRepl]
  | case3 i c rest cur _ ih => rw [ih]; simp

/-- **rebuilding a block when no sub-block was replaced returns the block unchanged** -/
theorem rebuild_none (pre post : List String) (body : List (String × Bool)) :
    rebuild pre (subBlocks body) post noRepl = pre ++ body.map (·.1) ++ post := by
  simp [rebuild, subBlocks, rebuild_head]

/-- replace exactly the sub-block with index `k` -/
def oneRepl (k : Nat) (R : List String) : Nat → Option (List String) := fun i => if i = k then some R else none

theorem rebuildBody_congr : ∀ (segs : List (List String)) (shared : List String) (f g : Nat → Option (List String)) (i : Nat),
    (∀ j, i ≤ j → f j = g j) → rebuildBody segs shared f i = rebuildBody segs shared g i
  | [], _, _, _, _, _ => by simp [rebuildBody]
  | [sg], shared, f, g, i, h => by rw [rebuildBody_single, rebuildBody_single, h i (Nat.le_refl _)]
  | sg :: t :: rest, shared, f, g, i, h => by
    simp only [rebuildBody_cons (s := sg) (T := t :: rest) (by simp), h i (Nat.le_refl _),
      rebuildBody_congr (t :: rest) shared.tail f g (i + 1) (fun j hj => h j (by omega))]

theorem rebuildBody_one : ∀ (segs : List (List String)) (shared : List String) (i k : Nat) (hlt : k < segs.length),
    ∃ p s, ∀ f : Nat → Option (List String), (∀ j, j ≠ i + k → f j = none) →
      rebuildBody segs shared f i = p ++ (f (i + k)).getD segs[k] ++ s
  | [sg], shared, i, 0, _ => ⟨[], [], fun f _ => by simp [rebuildBody_single]⟩
  | sg :: t :: rest, shared, i, 0, _ =>
    ⟨[], shared.head?.toList ++ rebuildBody (t :: rest) shared.tail noRepl (i + 1), fun f hf => by
      rw [rebuildBody_cons (by simp), rebuildBody_congr _ _ f noRepl (i + 1) fun j hj => hf j (by omega)]
      simp⟩
  | sg :: t :: rest, shared, i, k + 1, hlt => by
    obtain ⟨p, s, h⟩ := rebuildBody_one (t :: rest) shared.tail (i + 1) k (Nat.lt_of_succ_lt_succ hlt)
    refine ⟨sg ++ shared.head?.toList ++ p, s, fun f hf => ?_⟩
    rw [rebuildBody_cons (by simp), hf i (by omega), h f fun j hj => hf j (by omega), show i + 1 + k = i + (k + 1) by omega]
    simp

/-- **C14, last clause**: replacing sub-block `k` by `R` changes only that segment — the rebuilt block is the block
    rebuilt with nothing replaced (which is the original block, `rebuild_none`) with the instructions of segment `k`
    exchanged for `R`; what precedes and follows does not depend on `R`. -/
theorem rebuild_one (pre post : List String) (subs : List (List String)) (k : Nat) (hk : k < (stripShared subs).length) :
    ∃ p s, (∀ R, rebuild pre subs post (oneRepl k R) = pre ++ (p ++ R ++ s) ++ post) ∧
      rebuild pre subs post noRepl = pre ++ (p ++ (stripShared subs)[k] ++ s) ++ post := by
  obtain ⟨p, s, h⟩ := rebuildBody_one (stripShared subs) (sharedOf subs) 0 k hk
  rw [Nat.zero_add] at h
  exact ⟨p, s, fun R => by simp [rebuild, h (oneRepl k R) fun j hj => if_neg hj, oneRepl],
    by simp [rebuild, h noRepl fun _ _ => rfl, noRepl]⟩

end GasolVerif.Asm
