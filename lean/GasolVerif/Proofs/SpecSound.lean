/-
  C02: non-conflicting operations of a specification commute, hence (schedule_indep) every two
  admissible schedules of a specification whose conflicting operations are all ordered compute the
  same loaded values, memory and storage.
-/
import GasolVerif.Models.SpecSem
import GasolVerif.Proofs.Schedule
import GasolVerif.Proofs.NormSound
namespace GasolVerif.Spec
open GasolVerif.Norm

variable (e : GasolVerif.Env) (σ₀ : St)

theorem evalW_setLv (lv : String → Option Word) (o : String) (w : Word) (t : Tm)
    (hp : isPure t = true) (hu : usesLoad o t = false) :
    evalW (withLoads e (setLv lv o w)) σ₀ t = evalW (withLoads e lv) σ₀ t := by
  induction t with
  | const _ | var _ | env0 _ => rfl
  | sym s => simp [evalW, withLoads, setLv, (beq_eq_false_iff_ne.1 hu : s ≠ loadSym o)]
  | env1 n a iha => rw [evalW, evalW, iha hp hu]; rfl
  | un op a iha => rw [evalW, evalW, iha hp hu]
  | bin op a b iha ihb =>
    simp only [isPure, usesLoad, Bool.and_eq_true, Bool.or_eq_false_iff] at hp hu
    rw [evalW, evalW, iha hp.1 hu.1, ihb hp.2 hu.2]
  | ter op a b c iha ihb ihc =>
    simp only [isPure, usesLoad, Bool.and_eq_true, Bool.or_eq_false_iff] at hp hu
    rw [evalW, evalW, iha hp.1.1 hu.1.1, ihb hp.1.2 hu.1.2, ihc hp.2 hu.2]
  | _ => cases hp -- memory, storage and hash nodes are not pure

abbrev ev (c : CSt) (t : Tm) : Word := evalW (withLoads e c.lv) σ₀ t

theorem ev_setLv (c : CSt) (o : String) (w : Word) (t : Tm) (hp : isPure t = true) (hu : usesLoad o t = false) :
    evalW (withLoads e (setLv c.lv o w)) σ₀ t = ev e σ₀ c t := evalW_setLv e σ₀ c.lv o w t hp hu

theorem loadSym_eq (o : String) : loadSym o = o := rfl

theorem setLv_comm (lv : String → Option Word) (o o' : String) (w w' : Word) (h : o ≠ o') :
    setLv (setLv lv o' w') o w = setLv (setLv lv o w) o' w' :=
  funext fun _ => ite_ite_comm _ _ _ fun h1 h2 => h (h1.symm.trans h2)

/-- `actEff` with the evaluation of argument terms as a parameter, so that two operations can be made to read their arguments
    in the same state -/
def actWith (e : GasolVerif.Env) (ρ : Tm → Word) (f : Eff) (c : CSt) : CSt :=
  match f with
  | .wmem a v => { c with mem := c.mem.writeWord (ρ a).toNat (ρ v) }
  | .bmem a v => { c with mem := c.mem.writeByte (ρ a).toNat (ρ v) }
  | .wsto k v => { c with sto := c.sto.write (ρ k) (ρ v) }
  | .rmem o a => { c with lv := setLv c.lv o (c.mem.readWord (ρ a).toNat) }
  | .rsto o k => { c with lv := setLv c.lv o (c.sto (ρ k)) }
  | .hmem o off len => { c with lv := setLv c.lv o (e.keccak (ρ len).toNat (fun i => c.mem ((ρ off).toNat + i))) }
  | .skip => c

theorem actWith_eq (f : Eff) (c : CSt) : actWith e (ev e σ₀ c) f c = actEff e σ₀ f c := rfl

theorem actWith_congr (ρ ρ' : Tm → Word) (f : Eff) (c : CSt) (h : ∀ t ∈ f.args, ρ t = ρ' t) :
    actWith e ρ f c = actWith e ρ' f c := by
  cases f <;> simp only [Eff.args, List.mem_cons, List.not_mem_nil, or_false, forall_eq_or_imp, forall_eq] at h <;>
    simp only [actWith, h]

theorem ev_actEff (g : Eff) (c : CSt) (t : Tm) (hp : isPure t = true) (hu : ∀ o, g.out? = some o → usesLoad o t = false) :
    ev e σ₀ (actEff e σ₀ g c) t = ev e σ₀ c t := by
  cases g with
  | rmem o _ | rsto o _ | hmem o _ _ => exact evalW_setLv e σ₀ c.lv o _ t hp (hu o rfl)
  | _ => rfl

theorem lv_setLv {lv : String → Option Word} {o s : String} {w w' : Word} (h : setLv lv o w s = some w') :
    lv s = some w' ∨ o = s := by
  by_cases hs : s = o
  · exact Or.inr hs.symm
  · exact Or.inl (by simpa [setLv, loadSym_eq, hs] using h)

theorem lv_actEff (f : Eff) (c : CSt) (s : String) (w : Word) (h : (actEff e σ₀ f c).lv s = some w) :
    c.lv s = some w ∨ f.out? = some s := by
  cases f with
  | rmem o _ | rsto o _ | hmem o _ _ => exact (lv_setLv h).imp_right (congrArg some)
  | _ => exact Or.inl h

theorem evalW_sym_setLv (lv : String → Option Word) (o : String) (w : Word) :
    evalW (withLoads e (setLv lv o w)) σ₀ (.sym (loadSym o)) = w := by
  simp [evalW, withLoads, setLv]

/-- what `conflCore f g = false` means under an evaluation `ρ` of the argument terms: no data flow either way, different results,
    and accesses to the same space, one of them writing, have disjoint ranges of known size / different keys -/
structure Indep (ρ : Tm → Word) (f g : Eff) : Prop where
  flowTo : flows f g = false
  flowFrom : flows g f = false
  out : ∀ o o', f.out? = some o → g.out? = some o' → o ≠ o'
  mem : ∀ a sa wa b sb wb, f.memAcc = some (a, sa, wa) → g.memAcc = some (b, sb, wb) → (wa || wb) = true →
    ∃ na nb, sa = some na ∧ sb = some nb ∧ Disj (ρ a).toNat na (ρ b).toNat nb
  sto : ∀ k wa j wb, f.stoAcc = some (k, wa) → g.stoAcc = some (j, wb) → (wa || wb) = true → ρ k ≠ ρ j

theorem indep_of_conflCore (f g : Eff) (hc : conflCore f g = false) (c : CSt) : Indep (ev e σ₀ c) f g := by
  simp only [conflCore, Bool.or_eq_false_iff] at hc
  obtain ⟨⟨⟨⟨hfg, hgf⟩, ho⟩, hm⟩, hs⟩ := hc
  refine ⟨hfg, hgf, fun o o' h1 h2 => ?_, fun a sa wa b sb wb h1 h2 hw => ?_, fun k wa j wb h1 h2 hw => ?_⟩
  · simpa [h1, h2] using ho
  · simp only [h1, h2, hw, Bool.true_and] at hm
    -- an access of unknown size conflicts with every write, so both sizes are known
    cases sa <;> cases sb <;> simp only [Bool.not_eq_false', reduceCtorEq] at hm
    exact ⟨_, _, rfl, rfl, (Bool.or_eq_true_iff.1 hm).elim (disjoint_sound (withLoads e c.lv) σ₀ a _ b _) fun h =>
      (disjoint_sound (withLoads e c.lv) σ₀ b _ a _ h).symm⟩
  · simp only [h1, h2, hw, Bool.true_and, Bool.not_eq_false'] at hs
    exact keysDiffer_sound (withLoads e c.lv) σ₀ k j hs

theorem actWith_comm (we : e.wf) (ρ : Tm → Word) (hlen : ∀ l n, constLen? l = some n → (ρ l).toNat = n) (f g : Eff)
    (h : Indep ρ f g) (c : CSt) : actWith e ρ f (actWith e ρ g c) = actWith e ρ g (actWith e ρ f c) := by
  have two : ∀ {a sa wa b sb wb}, f.memAcc = some (a, some sa, wa) → g.memAcc = some (b, some sb, wb) → (wa || wb) = true →
      Disj (ρ a).toNat sa (ρ b).toNat sb := fun h1 h2 hw => by
    obtain ⟨_, _, ⟨⟩, ⟨⟩, hd⟩ := h.mem _ _ _ _ _ _ h1 h2 hw; exact hd
  -- two effects on different components of the state (or a `skip`) commute by unfolding; the named cases are the pairs that
  -- meet in one component: two loads (different results), two accesses to one space of which one writes
  cases f <;> cases g <;> dsimp only [actWith]
  case rmem.rmem | rmem.rsto | rmem.hmem | rsto.rmem | rsto.rsto | rsto.hmem | hmem.rmem | hmem.rsto | hmem.hmem =>
    rw [setLv_comm _ _ _ _ _ (h.out _ _ rfl rfl)]
  case wmem.wmem => rw [writeWord_comm _ _ _ _ _ (two rfl rfl rfl)]
  case wmem.bmem => rw [writeWord_writeByte_comm _ _ _ _ _ (two rfl rfl rfl)]
  case bmem.wmem => rw [writeWord_writeByte_comm _ _ _ _ _ (two rfl rfl rfl).symm]
  case bmem.bmem => rw [writeByte_comm _ _ _ _ _ (two rfl rfl rfl)]
  case wsto.wsto => rw [stoWrite_comm _ _ _ _ _ (h.sto _ _ _ _ rfl rfl rfl)]
  case wmem.rmem => rw [Mem.readWord_congr _ _ _ (writeWord_of_disj _ _ (two rfl rfl rfl).symm)]
  case rmem.wmem => rw [Mem.readWord_congr _ _ _ (writeWord_of_disj _ _ (two rfl rfl rfl))]
  case bmem.rmem => rw [Mem.readWord_congr _ _ _ (writeByte_of_disj _ _ (two rfl rfl rfl).symm)]
  case rmem.bmem => rw [Mem.readWord_congr _ _ _ (writeByte_of_disj _ _ (two rfl rfl rfl))]
  case wsto.rsto => rw [stoWrite_of_ne _ _ (h.sto _ _ _ _ rfl rfl rfl).symm]
  case rsto.wsto => rw [stoWrite_of_ne _ _ (h.sto _ _ _ _ rfl rfl rfl)]
  case wmem.hmem a v o off len =>
    obtain ⟨_, n, ⟨⟩, hn, hd⟩ := h.mem _ _ _ _ _ _ rfl rfl rfl
    rw [hlen len n hn, we.keccak_ext _ _ _ (writeWord_of_disj _ _ hd.symm)]
  case hmem.wmem o off len a v =>
    obtain ⟨n, _, hn, ⟨⟩, hd⟩ := h.mem _ _ _ _ _ _ rfl rfl rfl
    rw [hlen len n hn, we.keccak_ext _ _ _ (writeWord_of_disj _ _ hd)]
  case bmem.hmem a v o off len =>
    obtain ⟨_, n, ⟨⟩, hn, hd⟩ := h.mem _ _ _ _ _ _ rfl rfl rfl
    rw [hlen len n hn, we.keccak_ext _ _ _ (writeByte_of_disj _ _ hd.symm)]
  case hmem.bmem o off len a v =>
    obtain ⟨n, _, hn, ⟨⟩, hd⟩ := h.mem _ _ _ _ _ _ rfl rfl rfl
    rw [hlen len n hn, we.keccak_ext _ _ _ (writeByte_of_disj _ _ hd)]

theorem actEff_comm (we : e.wf) (f g : Eff) (hf : f.wf = true) (hg : g.wf = true) (hc : confl f g = false) (c : CSt) :
    actEff e σ₀ f (actEff e σ₀ g c) = actEff e σ₀ g (actEff e σ₀ f c) := by
  by_cases h : f = g
  · subst h; rfl
  have hc : conflCore f g = false := by simpa [confl, h] using hc
  -- neither operation changes the values of the other's arguments (`ev_actEff`), and with the arguments read in `c` the two are
  -- independent (`actWith_comm`)
  have stable : ∀ f g : Eff, f.wf = true → flows g f = false → ∀ t ∈ f.args, ev e σ₀ (actEff e σ₀ g c) t = ev e σ₀ c t := by
    intro f g hf hfl t ht
    refine ev_actEff e σ₀ g c t (List.all_eq_true.1 hf t ht) fun o ho => ?_
    simp only [flows, ho, List.any_eq_false] at hfl
    simpa using hfl t ht
  have hi := indep_of_conflCore e σ₀ f g hc c
  show actWith e (ev e σ₀ (actEff e σ₀ g c)) f (actWith e (ev e σ₀ c) g c) =
    actWith e (ev e σ₀ (actEff e σ₀ f c)) g (actWith e (ev e σ₀ c) f c)
  rw [actWith_congr e _ _ f _ (stable f g hf hi.flowFrom), actWith_congr e _ _ g _ (stable g f hg hi.flowTo)]
  refine actWith_comm e we _ (fun l n h => ?_) f g hi c
  obtain ⟨w, rfl, rfl⟩ := constLen?_eq_some h
  rfl

def runSched (S : Spec) (L : List String) (c : CSt) : CSt :=
  runActs (fun id => actEff e σ₀ (effId S id)) L c

theorem runSched_snoc (S : Spec) (L : List String) (id : String) (c : CSt) :
    runSched e σ₀ S (L ++ [id]) c = actEff e σ₀ (effId S id) (runSched e σ₀ S L c) :=
  runActs_snoc _ L id c

def Respects (L : List String) (edges : List (String × String)) : Prop :=
  ∀ x y, (x, y) ∈ edges → L.idxOf x < L.idxOf y

theorem reach_order (L : List String) (edges : List (String × String)) (hr : Respects L edges) :
    ∀ (fuel : Nat) (a b : String), reach edges fuel a b = true → L.idxOf a < L.idxOf b
  | 0, a, b, h => by simp [reach] at h
  | fuel + 1, a, b, h => by
    simp only [reach, List.any_eq_true, Bool.and_eq_true, beq_iff_eq, Bool.or_eq_true] at h
    obtain ⟨⟨x, y⟩, hmem, rfl, rfl | hy⟩ := h
    · exact hr x y hmem
    · exact Nat.lt_trans (hr x y hmem) (reach_order L edges hr fuel y b hy)

/-- **C02, schedules**: if every pair of conflicting operations of a specification is connected, one way or the
    other, by the declared dependences and data flow (`edges`), then any two schedules that respect those
    pairs compute the same loaded values, memory and storage from every state -/
theorem admissible_schedules_agree (we : e.wf) (S : Spec) (edges : List (String × String)) (fuel : Nat)
    (L₁ L₂ : List String) (hnd : L₁.Nodup) (hp : L₁.Perm L₂)
    (hwf : ∀ a ∈ L₁, (effId S a).wf = true)
    (hr₁ : Respects L₁ edges) (hr₂ : Respects L₂ edges)
    (hoc : ∀ a ∈ L₁, ∀ b ∈ L₁, a = b ∨ confl (effId S a) (effId S b) = false ∨
      reach edges fuel a b = true ∨ reach edges fuel b a = true)
    (c : CSt) : runSched e σ₀ S L₁ c = runSched e σ₀ S L₂ c := by
  -- `schedule_indep` wants every non-conflicting pair to commute, so "conflicting" is read as: not both well formed and without
  -- conflict, the premises of `actEff_comm`; by `hwf` the operations of `L₁` are well formed
  refine schedule_indep (fun id => actEff e σ₀ (effId S id))
    (fun a b => ¬ ((effId S a).wf = true ∧ (effId S b).wf = true ∧ confl (effId S a) (effId S b) = false))
    (fun a b hnc s => ?_) L₁ L₂ hnd hp (fun a b ha hb hcf hlt => ?_) c
  · obtain ⟨h1, h2, h3⟩ := Decidable.not_not.1 hnc
    exact actEff_comm e σ₀ we _ _ h1 h2 h3 s
  · rcases hoc a ha b hb with rfl | h | h | h
    · exact absurd hlt (Nat.lt_irrefl _)
    · exact absurd ⟨hwf a ha, hwf b hb, h⟩ hcf
    · exact reach_order L₂ edges hr₂ fuel a b h
    · exact absurd hlt (Nat.lt_asymm (reach_order L₁ edges hr₁ fuel b a h))

theorem respectsB_sound (L : List String) (edges : List (String × String)) (h : respectsB L edges = true) :
    Respects L edges :=
  fun x y hm => by simpa using List.all_eq_true.1 h (x, y) hm

/-- the premises of `admissible_schedules_agree` as the checks `conflictsOrdered` and `respectsB` that the driver runs -/
theorem checked_schedules_agree (we : e.wf) (S : Spec) (edges : List (String × String)) (fuel : Nat)
    (L₁ L₂ : List String) (hnd : L₁.Nodup) (hp : L₁.Perm L₂)
    (hco : conflictsOrdered S edges fuel L₁ = true)
    (hr₁ : respectsB L₁ edges = true) (hr₂ : respectsB L₂ edges = true) (c : CSt) :
    runSched e σ₀ S L₁ c = runSched e σ₀ S L₂ c := by
  simp only [conflictsOrdered, Bool.and_eq_true, List.all_eq_true, Bool.or_eq_true, Bool.not_eq_true', beq_iff_eq, or_assoc] at hco
  exact admissible_schedules_agree e σ₀ we S edges fuel L₁ L₂ hnd hp hco.1 (respectsB_sound L₁ edges hr₁)
    (respectsB_sound L₂ edges hr₂) hco.2 c

end GasolVerif.Spec
