/-
  C02: schedule independence.  If non-conflicting actions commute, two duplicate-free schedules of
  the same actions that order every conflicting pair the same way compute the same state.
  (Instantiation: actions = memory/storage operations of a specification, conflict = data flow or
  possibly overlapping accesses one of which writes.)
-/
namespace GasolVerif

variable {α σ : Type}

def runActs (act : α → σ → σ) : List α → σ → σ
  | [], s => s
  | a :: l, s => runActs act l (act a s)

theorem runActs_snoc (act : α → σ → σ) (L : List α) (a : α) (s : σ) :
    runActs act (L ++ [a]) s = act a (runActs act L s) := by
  induction L generalizing s with
  | nil => rfl
  | cons b L ih => exact ih _

theorem runActs_middle (act : α → σ → σ) (a : α) (l r : List α) (s : σ)
    (h : ∀ b ∈ l, ∀ s, act a (act b s) = act b (act a s)) : runActs act (l ++ a :: r) s = runActs act (a :: (l ++ r)) s := by
  induction l generalizing s with
  | nil => rfl
  | cons b l ih =>
    rw [List.cons_append, runActs, ih _ fun c hc => h c (List.mem_cons_of_mem _ hc)]
    exact congrArg _ (h b List.mem_cons_self s)

/-- `schedule_indep` with positions given by two keys along which the schedules are sorted, not by `idxOf` in the lists
    themselves: the keys stay the same while the lists get shorter in the induction -/
theorem runActs_perm (act : α → σ → σ) (conf : α → α → Prop)
    (hcomm : ∀ a b, ¬ conf a b → ∀ s, act a (act b s) = act b (act a s)) (k₁ k₂ : α → Nat) (L₁ L₂ : List α)
    (h₁ : L₁.Pairwise (k₁ · < k₁ ·)) (h₂ : L₂.Pairwise (k₂ · < k₂ ·)) (hp : L₁.Perm L₂)
    (hord : ∀ a ∈ L₁, ∀ b ∈ L₁, conf a b → k₁ a < k₁ b → k₂ a < k₂ b) (s : σ) : runActs act L₁ s = runActs act L₂ s := by
  induction L₁ generalizing L₂ s with
  | nil => rw [hp.nil_eq]
  | cons a L₁ ih =>
    obtain ⟨l, r, rfl⟩ := List.append_of_mem (hp.subset List.mem_cons_self)
    have hp' := (hp.trans List.perm_middle).cons_inv
    -- what precedes `a` in `L₂` follows it in `a :: L₁`, so does not conflict with it
    have hl : ∀ b ∈ l, ¬ conf a b := fun b hb hc =>
      have hb' := hp'.symm.subset (List.mem_append_left r hb)
      Nat.lt_asymm (hord a List.mem_cons_self b (List.mem_cons_of_mem _ hb') hc (List.rel_of_pairwise_cons h₁ hb'))
        ((List.pairwise_append.1 h₂).2.2 b hb a List.mem_cons_self)
    rw [runActs_middle act a l r s fun b hb => hcomm a b (hl b hb)]
    exact ih (l ++ r) h₁.of_cons (h₂.sublist ((List.sublist_cons_self a r).append_left l)) hp'
      (fun x hx y hy => hord x (List.mem_cons_of_mem _ hx) y (List.mem_cons_of_mem _ hy)) _

variable [DecidableEq α]

theorem schedule_indep (act : α → σ → σ) (conf : α → α → Prop)
    (hcomm : ∀ a b, ¬ conf a b → ∀ s, act a (act b s) = act b (act a s)) :
    ∀ (L₁ L₂ : List α), L₁.Nodup → L₁.Perm L₂ →
      (∀ a b, a ∈ L₁ → b ∈ L₁ → conf a b → L₁.idxOf a < L₁.idxOf b → L₂.idxOf a < L₂.idxOf b) →
      ∀ s, runActs act L₁ s = runActs act L₂ s := by
  intro L₁ L₂ hnd hp hord
  have sorted : ∀ {L : List α}, L.Nodup → L.Pairwise (L.idxOf · < L.idxOf ·) := fun h =>
    List.pairwise_iff_getElem.2 fun i j hi hj hij => by rwa [h.idxOf_getElem, h.idxOf_getElem]
  exact runActs_perm act conf hcomm _ _ L₁ L₂ (sorted hnd) (sorted (hp.nodup_iff.1 hnd)) hp (fun a ha b hb => hord a b ha hb)

end GasolVerif
