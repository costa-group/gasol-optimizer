/-
  C08 / C17: the accept/reject decision says what the property says (`improves_spec`, with `go_spec` for its loop over the
  other measures; `accepted_not_worse` per criterion), costs are additive over concatenation, and the tool's block-level
  gas accounting (a slot or account seen before is warm) never exceeds the static price.
-/
import GasolVerif.Models.CostAcc
namespace GasolVerif.Cost

/-- the loop of `improves_criterion` over the other measures; `any`: one of those already seen was positive -/
theorem go_spec (others : List Int) (any : Bool) :
    improves.go others any = true ↔ (∀ o ∈ others, o ≥ 0) ∧ (any = true ∨ ∃ o ∈ others, o > 0) := by
  fun_induction improves.go others any with
  | case1 any => simp                                        -- no measure left: the answer is `any`
  | case2 o os any h ih => simp [ih, h, Int.le_of_lt h]      -- `o > 0`: goes on with `any = true`
  | case3 o os any _ h => simp [Int.not_le.mpr h]            -- `o < 0`: the answer is `false`
  | case4 o os any h1 h2 ih =>                               -- `o = 0`: goes on
    have ho : o = 0 := Int.le_antisymm (Int.not_lt.mp h1) (Int.not_lt.mp h2)
    simp [ih, ho]

/-- the acceptance test is exactly: strictly better in the criterion, or equal in it, worse in no
    other measure and strictly better in at least one -/
theorem improves_spec (c : Int) (others : List Int) :
    improves c others = true ↔
      c > 0 ∨ (c = 0 ∧ (∀ o ∈ others, o ≥ 0) ∧ ∃ o ∈ others, o > 0) := by
  unfold improves
  split
  · rename_i h; simp [h]                       -- `c > 0`
  split
  · rename_i h1 h2; simp [go_spec, h2]         -- `c = 0`: the loop decides, starting with `any = false`
  · rename_i h1 h2; simp [h1, h2]              -- `c < 0`

theorem improves_one (c o : Int) : improves c [o] = true ↔ c > 0 ∨ (c = 0 ∧ o > 0) := by
  simp only [improves_spec, List.mem_singleton, forall_eq, exists_eq_left]
  omega

/-- a sub-block replacement that passes the tool's test, *measured by the costs it was given*, never
    costs more in the chosen criterion, and ties are broken only by improvements elsewhere -/
theorem accepted_not_worse (crit : Crit) (ss sg sl : Int) (h : hasBeenOptimized crit ss sg sl = true) :
    match crit with
    | .gas => sg > 0 ∨ (sg = 0 ∧ ss > 0)
    | .size => ss > 0 ∨ (ss = 0 ∧ sg > 0)
    | .length => sl > 0 ∨ (sl = 0 ∧ sg ≥ 0 ∧ ss ≥ 0 ∧ (sg > 0 ∨ ss > 0)) := by
  cases crit with
  | gas => exact (improves_one sg ss).mp h
  | size => exact (improves_one ss sg).mp h
  | length =>
    simpa only [hasBeenOptimized, improves_spec, List.mem_cons, List.not_mem_nil, or_false, forall_eq_or_imp, forall_eq,
      exists_eq_or_imp, exists_eq_left, and_assoc] using h

/-- costs are additive over concatenation (sub-block replacement changes a block's size and length
    by exactly the saving of the replaced segment) -/
theorem costs_append (p : Bool) (A B : List Instr) :
    costs p (A ++ B) = ⟨(costs p A).gas + (costs p B).gas, (costs p A).bytes + (costs p B).bytes,
      (costs p A).len + (costs p B).len⟩ := by
  simp [costs, List.map_append, List.sum_append]

theorem gasOf_extcodecopy (p0 : Bool) (a : Nat) (o : Bool) : gasOf p0 (.ext "EXTCODECOPY" a o) = 2600 := by
  simp [gasOf.eq_def]

theorem gasOf_account (p0 : Bool) (n : String) (h : isAccountRead n = true) : gasOf p0 (.env1 n) = 2600 := by
  simp only [isAccountRead, Bool.or_eq_true, beq_iff_eq] at h
  rcases h with (h | h) | h <;> subst h <;> simp [gasOf.eq_def]

theorem sloadGas_le (w : Bool) : sloadGas w ≤ 2100 := by cases w <;> decide
theorem sstoreGas_le (w s : Bool) : sstoreGas w s ≤ 5000 := by cases w <;> cases s <;> decide
theorem accountGas_le (w : Bool) : accountGas w ≤ 2600 := by cases w <;> decide

theorem accStep_gas (p0 : Bool) (st : AccSt) (i : Instr) :
    (accStep p0 st i).gas ≤ st.gas + gasOf p0 i ∧ (isAccess i = false → (accStep p0 st i).gas = st.gas + gasOf p0 i) := by
  fun_cases accStep p0 st i
  -- four clauses price by what the block touched before; every other clause adds `gasOf`
  case case16 => exact ⟨Nat.add_le_add_left (sloadGas_le _) _, nofun⟩            -- SLOAD
  case case17 => exact ⟨Nat.add_le_add_left (sstoreGas_le _ _) _, nofun⟩         -- SSTORE
  case case11 h =>                                                             -- an account read (`isAccountRead`)
    exact ⟨gasOf_account p0 _ h ▸ Nat.add_le_add_left (accountGas_le _) _, fun h' => nomatch h.symm.trans h'⟩
  case case19 h =>                                                             -- EXTCODECOPY
    obtain rfl := beq_iff_eq.mp h
    exact ⟨gasOf_extcodecopy p0 _ _ ▸ Nat.add_le_add_left (accountGas_le _) _, nofun⟩
  all_goals exact ⟨Nat.le_refl _, fun _ => rfl⟩

theorem foldl_acc_gas (p0 : Bool) (B : List Instr) (st : AccSt) :
    (B.foldl (accStep p0) st).gas ≤ st.gas + (B.map (gasOf p0)).sum ∧
    ((∀ i ∈ B, isAccess i = false) → (B.foldl (accStep p0) st).gas = st.gas + (B.map (gasOf p0)).sum) := by
  induction B generalizing st with
  | nil => simp
  | cons i B ih =>
    simp only [List.foldl_cons, List.map_cons, List.sum_cons]
    obtain ⟨h1, h2⟩ := accStep_gas p0 st i
    obtain ⟨g1, g2⟩ := ih (accStep p0 st i)
    constructor
    · omega
    · intro hall
      have hi := h2 (hall i (by simp))
      have hr := g2 (fun j hj => hall j (by simp [hj]))
      omega

/-- **the tool's gas of a block never exceeds the static price** (a warm access is never dearer than a cold one) -/
theorem gasAcc_le_static (p0 : Bool) (B : List Instr) : gasAcc p0 B ≤ (costs p0 B).gas := by
  simpa [gasAcc, costs] using (foldl_acc_gas p0 B {}).1

/-- on a block without storage or account accesses the tool's gas is the static price -/
theorem gasAcc_eq_static (p0 : Bool) (B : List Instr) (h : ∀ i ∈ B, isAccess i = false) : gasAcc p0 B = (costs p0 B).gas := by
  simpa [gasAcc, costs] using (foldl_acc_gas p0 B {}).2 h

end GasolVerif.Cost
