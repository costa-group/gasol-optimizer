/-
  C04 / C06 / C01: what `Spec.realizes` means.  The instructions an accepted identifier sequence stands for
  (`asmOf`) end in the state the specification denotes under the schedule in which the sequence performs the
  memory/storage operations (`realizes_exec`); with C02 this closes block → specification → sequence
  (`realized_sequence_obsEq`).  The proof is a simulation of `runIds` by the machine with invariant `RInv`.
-/
import GasolVerif.Proofs.StepId
import GasolVerif.Proofs.SpecSim
namespace GasolVerif.Spec

/-- what the executable premise `instrOk S u` says, clause by clause -/
structure InstrOk (S : Spec) (u : UInstr) : Prop where
  comm : u.comm = true → u.inp.length = 2 ∧ u.isEffect = false ∧ (BinOp.ofName? u.op).any (·.comm) = true
  push : u.op = "PUSH" ∨ u.op = "PUSH0" → u.inp = []
  out : ∀ o, u.out = some o → o ∉ S.src ∧ S.producer? o = some u
  eff : u.isEffect = true → effOf S u ≠ .skip ∧ (u.isStore = true → u.out = none)
  pure : u.isEffect = false → (∃ i, instrOfU u = some i) ∧ ∃ o t, u.out = some o ∧ tmA S (.var o) = some t

theorem InstrOk.of_realOk {S : Spec} (h : realOk S = true) {u : UInstr} (hu : u ∈ S.instrs) : InstrOk S u := by
  simp only [realOk, Bool.and_eq_true, List.all_eq_true] at h
  have hi := h.2 u hu
  simp only [instrOk, Bool.and_eq_true, Bool.or_eq_true, Bool.not_eq_true', beq_iff_eq, List.isEmpty_iff,
    Option.isSome_iff_exists] at hi
  obtain ⟨⟨⟨⟨_, hcomm⟩, hpush⟩, hout⟩, hkind⟩ := hi
  exact {
    comm := fun hc => by simpa [hc, and_assoc] using hcomm
    push := fun hp => by rcases hp with hp | hp <;> simpa [hp] using hpush
    out := fun o ho => by simpa [ho] using hout
    eff := fun he => by
      simp only [he, if_true, Bool.and_eq_true, bne_iff_ne, ne_eq] at hkind
      exact ⟨hkind.1, fun hs => by simpa [hs] using hkind.2⟩
    pure := fun he => by
      cases ho : u.out with
      | none => simp [he, ho] at hkind
      | some o => simpa [he, ho, tmA, termOfAtom, Option.isSome_iff_exists] using hkind }

theorem realOk_names (S : Spec) (h : realOk S = true) : namesOk S = true := by
  simp only [realOk, Bool.and_eq_true] at h; exact h.1.1

theorem realOk_nodup (S : Spec) (h : realOk S = true) : S.src.Nodup := by
  simp only [realOk, Bool.and_eq_true, decide_eq_true_eq] at h; exact h.1.2

theorem tmA_const (S : Spec) (n : Nat) : tmA S (.const n) = some (.const (BitVec.ofNat 256 n)) := by
  simp [tmA, termOfAtom]

-- the fuel is `fuelOf S`, written as a successor so that the rules of `termOfVar` (stated for `f + 1`) apply
theorem tmA_var (S : Spec) (v : String) : tmA S (.var v) = termOfVar S (opaqueEnv S) (S.instrs.length + 1 + 1) v := by
  rw [tmA, termOfAtom]; rfl

theorem tmA_src (S : Spec) (hn : namesOk S = true) (s : String) (hs : s ∈ S.src) :
    tmA S (.var s) = some (.var (S.src.idxOf s)) :=
  (tmA_var S s).trans (termOfVar_src (lookup_opaqueEnv_none S s fun h => ((namesOk_iff S).1 hn).1 s h hs)
    (List.findIdx?_eq_some_of_exists ⟨s, hs, beq_self_eq_true s⟩))

theorem tmA_load (S : Spec) (o : String) (ho : o ∈ loadOuts S) : tmA S (.var o) = some (.sym (loadSym o)) :=
  (tmA_var S o).trans (termOfVar_bound (lookup_opaqueEnv S o ho))

/-- the term an atom stands for (`tmA`, made total so that stacks of atoms map to stacks of terms) -/
def tmD (S : Spec) (a : Atom) : Tm := (tmA S a).getD (.const 0)

theorem tmD_of_tmA {S : Spec} {a : Atom} {t : Tm} (h : tmA S a = some t) : tmD S a = t := by simp [tmD, h]

theorem map_getD_of_map_some {α β} {f : α → Option β} {l : List α} {ts : List β} (h : l.map f = ts.map some) (d : β) :
    ts = l.map fun a => (f a).getD d := by
  simpa [List.map_map, Function.comp_def] using (congrArg (List.map (·.getD d)) h).symm

theorem termsOf_tmD (S : Spec) (as : List Atom) (ts : List Tm)
    (h : termsOf S (opaqueEnv S) (fuelOf S) as = some ts) : ts = as.map (tmD S) :=
  map_getD_of_map_some ((termsOf_iff S _ _ as ts).1 h) _

/-- the result `o` of a pure instruction `u` stands for the term that `pureTm` builds from the terms of the operands -/
theorem tmA_pure (S : Spec) (hok : realOk S = true) (u : UInstr) (hu : u ∈ S.instrs) (he : u.isEffect = false)
    (o : String) (ho : u.out = some o) : ∃ t, tmA S (.var o) = some t ∧ pureTm u (u.inp.map (tmD S)) = some t := by
  have ok := InstrOk.of_realOk hok hu
  obtain ⟨hsrc, hp⟩ := ok.out o ho
  obtain ⟨_, o', t, ho', ht⟩ := ok.pure he
  cases ho.symm.trans ho'
  refine ⟨t, ht, ?_⟩
  -- one unfolding of `termOfVar`: the operands are found with one unit of fuel less, hence (`termOf_mono`) with all
  simp only [tmA_var, termOfVar, lookup_opaqueEnv_none S o (not_mem_loadOuts (realOk_names S hok) hp he),
    List.idxOf?_eq_none_iff.2 hsrc, hp, he, Bool.false_eq_true, if_false] at ht
  obtain ⟨ts, hr, ht⟩ := Option.bind_eq_some_iff.1 ht
  rwa [← termsOf_tmD S u.inp ts ((termOf_mono S _ _).2 u.inp ts hr)]

theorem isEffect_push (u : UInstr) (h : u.op = "PUSH" ∨ u.op = "PUSH0") : u.isEffect = false := by
  rcases h with h | h <;> simp [UInstr.isEffect, UInstr.isMem, UInstr.isSto, memOps, stoOps, h]

theorem tmA_resolve (S : Spec) (hok : realOk S = true) (a : Atom) : tmA S (resolve S a) = tmA S a := by
  cases a with
  | const n => rfl
  | var v =>
    rcases resolve_var S v with h | ⟨u, n, hp, hop, hx, h⟩
    · rw [h]
    · -- the producer is a PUSH of `n` without operands: its term is the constant
      have hu : u ∈ S.instrs := List.mem_of_find?_eq_some hp
      obtain ⟨t, hv, hpt⟩ := tmA_pure S hok u hu (isEffect_push u hop) v (by simpa using List.find?_some hp)
      have hop' : (u.op == "PUSH" || u.op == "PUSH0") = true := by simpa using hop
      rw [(InstrOk.of_realOk hok hu).push hop] at hpt
      simp only [List.map_nil, pureTm, hop', if_true, hx, Option.map_some, Option.some.injEq] at hpt
      rw [h, hv, ← hpt, tmA_const]

theorem map_of_resolve {S : Spec} {β} (f : Atom → β) (hf : ∀ a, f (resolve S a) = f a) {l l' : List Atom}
    (h : l.map (resolve S) = l'.map (resolve S)) : l.map f = l'.map f := by
  simpa [List.map_map, Function.comp_def, hf] using congrArg (List.map f) h

/-- the EVM instruction that performs an effect -/
def Eff.instr? : Eff → Option Instr
  | .wmem .. => some .mstore | .bmem .. => some .mstore8 | .wsto .. => some .sstore
  | .rmem .. => some .mload | .rsto .. => some .sload | .hmem .. => some .keccak
  | .skip => none

theorem effOn_instr (u : UInstr) (args : List Tm) : effOn u args ≠ .skip →
    (effOn u args).args = args ∧ ∃ i, instrOfU u = some i ∧ (effOn u args).instr? = some i := by
  -- the name that selects the case of `opCases` decides the tests of `instrOfU`
  refine opCases_ind (motive := fun f => f ≠ Eff.skip → f.args = args ∧ ∃ i, instrOfU u = some i ∧ f.instr? = some i)
    (fun _ _ hop ha _ => ⟨ha.symm, _, by simp [instrOfU, hop], rfl⟩)
    (fun _ _ hop ha _ => ⟨ha.symm, _, by simp [instrOfU, hop], rfl⟩)
    (fun _ _ hop ha _ => ⟨ha.symm, _, by simp [instrOfU, hop], rfl⟩)
    (fun _ _ hop ha _ _ => ⟨ha.symm, _, by simp [instrOfU, hop], rfl⟩)
    (fun _ _ hop ha _ _ => ⟨ha.symm, _, by simp [instrOfU, hop], rfl⟩)
    (fun _ _ _ hop ha _ _ => ⟨ha.symm, _, by rcases hop with hop | hop <;> simp [instrOfU, hop], rfl⟩)
    (absurd rfl)

theorem effOf_inv (S : Spec) (u : UInstr) (h : effOf S u ≠ .skip) :
    u.isEffect = true ∧ argsTm S u = some (effOf S u).args ∧
      (∃ i, instrOfU u = some i ∧ (effOf S u).instr? = some i) ∧
      (∀ o, (effOf S u).out? = some o → u.out = some o) ∧ ((effOf S u).out? = none → u.isStore = true) := by
  rw [effOf_eq] at h ⊢
  cases hat : argsTm S u with
  | none => rw [hat] at h; exact absurd rfl h
  | some args =>
    rw [hat] at h
    obtain ⟨ha, hi⟩ := effOn_instr u args h
    exact ⟨(effOn_spec u args h).1, congrArg some ha.symm, hi, (effOn_spec u args h).2⟩

theorem effOf_pure (S : Spec) (u : UInstr) (he : u.isEffect = false) : effOf S u = .skip :=
  Decidable.byContradiction fun h => by simpa [he] using (effOf_inv S u h).1

variable (e : GasolVerif.Env) (σ₀ : St)

/-- the same function as `ev` (SpecSound); the statement of `RInv` is written with this name, everything else with `ev` -/
abbrev evc (c : CSt) (t : Tm) : Word := evalW (withLoads e c.lv) σ₀ t

/-- the instruction of an effect, run on its argument values, does what `actEff` does to memory and storage, and a load leaves on
    the stack the value its symbol has in the scheduled state afterwards -/
theorem step_actEff (f : Eff) (i : Instr) (hi : f.instr? = some i) (c : CSt) (σ : St) (rest : List Word)
    (hs : σ.stack = f.args.map (ev e σ₀ c) ++ rest) (hm : σ.mem = c.mem) (hst : σ.sto = c.sto) :
    step e i σ = some { σ with
      stack := (f.out?.toList.map fun o => ev e σ₀ (actEff e σ₀ f c) (.sym (loadSym o))) ++ rest,
      mem := (actEff e σ₀ f c).mem, sto := (actEff e σ₀ f c).sto } := by
  -- `skip` has no instruction (`hi`); for each of the six kinds the two sides compute
  cases f <;> cases hi <;>
    simp [step, hs, hm, hst, actEff, Eff.args, Eff.out?, ev, evalW_sym_setLv]

/-- a pure instruction read off `pureTm` and `instrOfU` together: argument terms, the term built from them, the EVM
    instruction -/
inductive PureOp (u : UInstr) : List Tm → Tm → Instr → Prop
  | push (w : Word) : PureOp u [] (.const w) (.push w)
  | pushSym : PureOp u [] (.sym u.sym) (.pushSym u.sym)
  | env0 (n : String) : PureOp u [] (.env0 n) (.env0 n)
  | un (o : UnOp) (a : Tm) : PureOp u [a] (.un o a) (.un o)
  | env1 (a : Tm) : PureOp u [a] (.env1 u.op a) (.env1 u.op)
  | bin (o : BinOp) (a b : Tm) : BinOp.ofName? u.op = some o → PureOp u [a, b] (.bin o a b) (.bin o)
  | ter (o : TerOp) (a b c : Tm) : PureOp u [a, b, c] (.ter o a b c) (.ter o)

theorem pureOp_inv (u : UInstr) (i : Instr) (he : u.isEffect = false) (hi : instrOfU u = some i) (f : Atom → Tm) (t : Tm)
    (ht : pureTm u (u.inp.map f) = some t) : PureOp u (u.inp.map f) t i := by
  -- the six tests of `instrOfU` for a memory/storage operation fail; what is left is `pureTm`'s case analysis: by the
  -- number of operands (the argument terms are `u.inp.map f` so that the shape of `u.inp` decides both), then by the
  -- same tests on the name
  simp only [UInstr.isEffect, UInstr.isMem, UInstr.isSto, memOps, stoOps, Bool.or_eq_false_iff,
    List.contains_eq_mem, decide_eq_false_iff_not, List.mem_cons, List.not_mem_nil, or_false, not_or] at he
  obtain ⟨⟨h1, h2, h4, h6, h7⟩, h3, h5⟩ := he
  simp only [instrOfU, beq_iff_eq, Bool.or_eq_true, h1, h2, h3, h4, h5, h6, h7, or_self, if_false] at hi
  unfold pureTm at ht
  rcases hinp : u.inp with _ | ⟨_, _ | ⟨_, _ | ⟨_, _ | _⟩⟩⟩ <;>
    simp only [hinp, List.map_cons, List.map_nil, beq_iff_eq, Bool.or_eq_true] at hi ht ⊢
  · by_cases hp : u.op = "PUSH" ∨ u.op = "PUSH0"
    · rw [if_pos hp] at hi ht
      obtain ⟨n, hx, rfl⟩ := Option.map_eq_some_iff.1 hi
      rw [hx] at ht; cases ht; exact .push _
    · rw [if_neg hp] at hi ht
      by_cases hq : u.op.startsWith "PUSH" = true
      · rw [if_pos hq] at hi ht; cases hi; cases ht; exact .pushSym
      · rw [if_neg hq] at hi ht; cases hi; cases ht; exact .env0 _
  · cases ho : UnOp.ofName? u.op <;> rw [ho] at hi ht <;> cases hi <;> cases ht
    · exact .env1 _
    · exact .un _ _
  · obtain ⟨o, ho, rfl⟩ := Option.map_eq_some_iff.1 hi
    rw [ho] at ht; cases ht; exact .bin _ _ _ ho
  · obtain ⟨o, ho, rfl⟩ := Option.map_eq_some_iff.1 hi
    rw [ho] at ht; cases ht; exact .ter _ _ _ _
  · cases ht

theorem PureOp.sim {u : UInstr} {ts : List Tm} {t : Tm} {i : Instr} (h : PureOp u ts t i) (lv : String → Option Word)
    (hlv : lv u.sym = none) (σ : St) (htr : σ.trace = σ₀.trace) (rest : List Word)
    (hs : σ.stack = ts.map (evalW (withLoads e lv) σ₀) ++ rest) :
    step e i σ = some { σ with stack := evalW (withLoads e lv) σ₀ t :: rest } := by
  cases h <;> simp [step, hs, evalW, withLoads, hlv, htr.symm]

theorem PureOp.uses {u : UInstr} {ts : List Tm} {t : Tm} {i : Instr} (h : PureOp u ts t i) (o : String)
    (hu : usesLoad o t = true) : (∃ t' ∈ ts, usesLoad o t' = true) ∨ u.sym = loadSym o := by
  cases h with
  | push | env0 => simp [usesLoad] at hu
  | pushSym => exact .inr (by simpa [usesLoad] using hu)
  | _ => rw [usesLoad] at hu; exact .inl (by simpa [or_assoc] using hu)

/-- the concrete scheduled state after the operations performed so far -/
def cOf (S : Spec) (done : List String) : CSt := runSched e σ₀ S done (initC σ₀)

/-- the abstract run state `st` and the machine state `σ` agree: every cell of the abstract stack stands for a pure
    term whose value (in the loaded values so far) is the word in the machine's cell; memory and storage are the
    ones of the scheduled run; a term mentions only loads that were performed; only load results have a loaded value
    (`lvdom`: so the symbol of a pure instruction has none and is read in the environment) -/
structure RInv (S : Spec) (st : RunSt) (σ : St) : Prop where
  ex : ∃ ts : List Tm, st.stack.map (tmA S) = ts.map some ∧
        σ.stack = ts.map (evc e σ₀ (cOf e σ₀ S st.done)) ++ σ₀.stack.drop S.src.length ∧
        ∀ t ∈ ts, isPure t = true ∧
          ∀ o ∈ loadOuts S, usesLoad o t = true → ∃ id ∈ st.done, (S.find? id).bind (·.out) = some o
  mem : σ.mem = (cOf e σ₀ S st.done).mem
  sto : σ.sto = (cOf e σ₀ S st.done).sto
  trace : σ.trace = σ₀.trace
  lvdom : ∀ s w, (cOf e σ₀ S st.done).lv s = some w → s ∈ loadOuts S

theorem cOf_snoc (S : Spec) (done : List String) (id : String) (u : UInstr) (hf : S.find? id = some u) :
    cOf e σ₀ S (done ++ [id]) = actEff e σ₀ (effOf S u) (cOf e σ₀ S done) := by
  simp only [cOf, runSched_snoc, effId, hf]

/-- the atom stands for a pure term that mentions only loads performed in `done` -/
structure Cell (S : Spec) (done : List String) (a : Atom) : Prop where
  tm : tmA S a = some (tmD S a)
  pure : isPure (tmD S a) = true
  loads : ∀ o ∈ loadOuts S, usesLoad o (tmD S a) = true → ∃ id ∈ done, (S.find? id).bind (·.out) = some o

theorem Cell.of_tmA {S : Spec} {done : List String} {a : Atom} {t : Tm} (ht : tmA S a = some t)
    (hp : isPure t = true)
    (hl : ∀ o ∈ loadOuts S, usesLoad o t = true → ∃ id ∈ done, (S.find? id).bind (·.out) = some o) :
    Cell S done a := by
  obtain rfl := tmD_of_tmA ht
  exact ⟨ht, hp, hl⟩

theorem Cell.mono {S : Spec} {done : List String} {a : Atom} (h : Cell S done a) (l : List String) :
    Cell S (done ++ l) a :=
  ⟨h.tm, h.pure, fun o ho hu => let ⟨id, hid, hf⟩ := h.loads o ho hu; ⟨id, List.mem_append_left _ hid, hf⟩⟩

theorem Cell.congr {S : Spec} {done : List String} {a b : Atom} (h : tmA S a = tmA S b) (hc : Cell S done a) :
    Cell S done b := by
  have : tmD S a = tmD S b := by simp only [tmD, h]
  exact ⟨h ▸ this ▸ hc.tm, this ▸ hc.pure, this ▸ hc.loads⟩

/-- the word in the machine's cell for the atom `a`, after the operations `done` -/
abbrev valA (S : Spec) (done : List String) (a : Atom) : Word := ev e σ₀ (cOf e σ₀ S done) (tmD S a)

theorem valA_resolve (S : Spec) (hok : realOk S = true) (done : List String) (a : Atom) :
    valA e σ₀ S done (resolve S a) = valA e σ₀ S done a := by
  simp only [valA, tmD, tmA_resolve S hok]

variable {e σ₀}

/-! `RInv` is used through the next three lemmas: the cells, the machine's stack as the image of the abstract one
    (so that `take`, `drop`, `set` and indexing on one side are the same operations on the other), and the way back. -/

theorem RInv.cells {S : Spec} {st : RunSt} {σ : St} (h : RInv e σ₀ S st σ) : ∀ a ∈ st.stack, Cell S st.done a := by
  obtain ⟨ts, hmap, _, hall⟩ := h.ex
  intro a ha
  have : tmA S a ∈ ts.map some := hmap ▸ List.mem_map_of_mem ha
  obtain ⟨t, ht, hta⟩ := List.mem_map.1 this
  exact Cell.of_tmA hta.symm (hall t ht).1 (hall t ht).2

theorem RInv.stack {S : Spec} {st : RunSt} {σ : St} (h : RInv e σ₀ S st σ) :
    σ.stack = st.stack.map (valA e σ₀ S st.done) ++ σ₀.stack.drop S.src.length := by
  obtain ⟨ts, hmap, hstk, _⟩ := h.ex
  rw [hstk, map_getD_of_map_some hmap (.const 0), List.map_map]; rfl

theorem RInv.of_cells {S : Spec} {st : RunSt} {σ : St} (hc : ∀ a ∈ st.stack, Cell S st.done a)
    (hs : σ.stack = st.stack.map (valA e σ₀ S st.done) ++ σ₀.stack.drop S.src.length)
    (hm : σ.mem = (cOf e σ₀ S st.done).mem) (hst : σ.sto = (cOf e σ₀ S st.done).sto) (htr : σ.trace = σ₀.trace)
    (hlv : ∀ s w, (cOf e σ₀ S st.done).lv s = some w → s ∈ loadOuts S) : RInv e σ₀ S st σ := by
  refine ⟨⟨st.stack.map (tmD S), ?_, ?_, ?_⟩, hm, hst, htr, hlv⟩
  · rw [List.map_map]; exact List.map_congr_left fun a ha => (hc a ha).tm
  · rw [hs, List.map_map]; rfl
  · intro t ht
    obtain ⟨a, ha, rfl⟩ := List.mem_map.1 ht
    exact ⟨(hc a ha).pure, (hc a ha).loads⟩

/-- for the steps that leave the scheduled state as it is: `PUSH#`, `POP`, `DUP`, `SWAP`, a pure instruction -/
theorem RInv.restack {S : Spec} {st : RunSt} {σ : St} (h : RInv e σ₀ S st σ) (stack : List Atom) (done : List String)
    (pk : Nat) (hc : cOf e σ₀ S done = cOf e σ₀ S st.done) (hcell : ∀ a ∈ stack, Cell S done a) :
    RInv e σ₀ S { stack := stack, done := done, peak := pk }
      { σ with stack := stack.map (valA e σ₀ S st.done) ++ σ₀.stack.drop S.src.length } := by
  have hval : valA e σ₀ S done = valA e σ₀ S st.done := funext fun a => by simp only [valA, hc]
  exact RInv.of_cells hcell (by rw [hval]) (by rw [hc]; exact h.mem) (by rw [hc]; exact h.sto) h.trace
    (by rw [hc]; exact h.lvdom)

/-- the operands `l` of an instruction: up to `resolve` the `n` cells on top -/
theorem RInv.top {S : Spec} {st : RunSt} {σ : St} (h : RInv e σ₀ S st σ) (hok : realOk S = true) {n : Nat}
    {l : List Atom} (hl : (st.stack.take n).map (resolve S) = l.map (resolve S)) :
    (∀ a ∈ l, Cell S st.done a) ∧ σ.stack = (l.map (tmD S)).map (ev e σ₀ (cOf e σ₀ S st.done)) ++
      ((st.stack.drop n).map (valA e σ₀ S st.done) ++ σ₀.stack.drop S.src.length) := by
  refine ⟨fun a ha => ?_, ?_⟩
  · have : tmA S a ∈ (st.stack.take n).map (tmA S) :=
      map_of_resolve (tmA S) (tmA_resolve S hok) hl ▸ List.mem_map_of_mem ha
    obtain ⟨b, hb, hba⟩ := List.mem_map.1 this
    exact (h.cells b (List.mem_of_mem_take hb)).congr hba
  · have := h.stack
    rw [← List.take_append_drop n st.stack, List.map_append, List.append_assoc,
      map_of_resolve _ (valA_resolve e σ₀ S hok st.done) hl] at this
    rw [List.map_map]; exact this

variable (e σ₀)

set_option linter.unusedVariables false in      -- `hlen` is not needed; the hypotheses are what `stepId` has tested at this point
theorem pure_sim (S : Spec) (hok : realOk S = true) (st : RunSt) (σ : St) (id : String) (u : UInstr)
    (hf : S.find? id = some u) (he : u.isEffect = false) (hinv : RInv e σ₀ S st σ)
    (hlen : ¬ st.stack.length < u.inp.length)
    (hargs : (st.stack.take u.inp.length).map (resolve S) = u.inp.map (resolve S) ∨
             ((u.comm = true ∧ (BinOp.ofName? u.op).any (·.comm) = true) ∧
               (st.stack.take u.inp.length).map (resolve S) = (u.inp.map (resolve S)).reverse))
    (o : String) (ho : u.out = some o) (pk : Nat) :
    ∃ i σ1, instrOfU u = some i ∧ step e i σ = some σ1 ∧
      RInv e σ₀ S { stack := .var o :: st.stack.drop u.inp.length, done := st.done ++ [id], peak := pk } σ1 := by
  have hu : u ∈ S.instrs := List.mem_of_find?_eq_some hf
  obtain ⟨_, hsyms, _⟩ := (namesOk_iff S).1 (realOk_names S hok)
  have hsym : u.sym ∉ loadOuts S := hsyms u hu
  have ok := InstrOk.of_realOk hok hu
  obtain ⟨t, hv, hpt⟩ := tmA_pure S hok u hu he o ho
  obtain ⟨i, hi1⟩ := (ok.pure he).1
  have hop := pureOp_inv u i he hi1 (tmD S) t hpt
  have hc : cOf e σ₀ S (st.done ++ [id]) = cOf e σ₀ S st.done := by
    rw [cOf_snoc e σ₀ S st.done id u hf, effOf_pure S u he]; rfl
  have hlv : (cOf e σ₀ S st.done).lv u.sym = none :=
    Option.eq_none_iff_forall_ne_some.2 fun w h => hsym (hinv.lvdom _ w h)
  -- the machine has the values of the operands on top, in this order or (commutative operation) the other
  have htop : (∀ a ∈ u.inp, Cell S st.done a) ∧ step e i σ = some { σ with
      stack := valA e σ₀ S st.done (.var o) ::
        ((st.stack.drop u.inp.length).map (valA e σ₀ S st.done) ++ σ₀.stack.drop S.src.length) } := by
    simp only [valA, tmD_of_tmA hv]
    rcases hargs with h | ⟨⟨hcm, hco⟩, h⟩
    · obtain ⟨hcl, hs⟩ := hinv.top hok h
      exact ⟨hcl, hop.sim e σ₀ _ hlv σ hinv.trace _ hs⟩
    · obtain ⟨hcl, hs⟩ := hinv.top hok (List.map_reverse ▸ h)
      refine ⟨fun a ha => hcl a (List.mem_reverse.2 ha), ?_⟩
      -- the flag is set on an instruction with two operands only, which makes it a `bin`
      match hinp : u.inp, (ok.comm hcm).1 with
      | [a, b], _ =>
        rw [hinp] at hop hs
        cases hop with
        | bin op _ _ ho =>
          rw [ho] at hco
          simpa only [evalW, BinOp.comm_sound op hco] using (PureOp.bin op _ _ ho).sim e σ₀ _ hlv σ hinv.trace _ hs
  refine ⟨i, _, hi1, htop.2, hinv.restack (.var o :: st.stack.drop u.inp.length) _ pk hc fun a ha => ?_⟩
  rcases List.mem_cons.1 ha with rfl | ha
  · refine Cell.of_tmA hv ((pureTm_val e σ₀ u _ t hpt).2 ?_) fun o' ho' hus => ?_
    · exact List.all_eq_true.2 fun x hx => by
        obtain ⟨a, ha, rfl⟩ := List.mem_map.1 hx; exact (htop.1 a ha).pure
    · rcases hop.uses o' hus with ⟨x, hx, hxu⟩ | hsym'
      · obtain ⟨a, ha, rfl⟩ := List.mem_map.1 hx
        exact ((htop.1 a ha).mono [id]).loads o' ho' hxu
      · exact absurd (hsym' ▸ ho') hsym
  · exact (hinv.cells a (List.mem_of_mem_drop ha)).mono [id]

theorem fresh_load (S : Spec) (hok : realOk S = true) (done : List String) (id : String) (u : UInstr)
    (hf : S.find? id = some u) (o : String) (hout : u.out = some o) (hfresh : id ∉ done) (t' : Tm)
    (hall : ∀ o ∈ loadOuts S, usesLoad o t' = true → ∃ id' ∈ done, (S.find? id').bind (·.out) = some o)
    (ho : o ∈ loadOuts S) : usesLoad o t' = false := by
  cases hus : usesLoad o t' with
  | false => rfl
  | true =>
    -- the instruction that performed the load of `o` is `u` (a result names one instruction), so `id` was performed
    obtain ⟨id', hid', hfo⟩ := hall o ho hus
    obtain ⟨u', hf', hfo⟩ := Option.bind_eq_some_iff.1 hfo
    obtain ⟨hu, e1⟩ := find?_inv S id u hf
    obtain ⟨hu', e2⟩ := find?_inv S id' u' hf'
    cases ((InstrOk.of_realOk hok hu).out o hout).2.symm.trans ((InstrOk.of_realOk hok hu').out o hfo).2
    exact absurd (e1 ▸ e2 ▸ hid') hfresh

set_option linter.unusedVariables false in      -- `hlen` is not needed, as in `pure_sim`
theorem eff_sim (S : Spec) (hok : realOk S = true) (st : RunSt) (σ : St) (id : String) (u : UInstr)
    (hf : S.find? id = some u) (he : u.isEffect = true) (hinv : RInv e σ₀ S st σ)
    (hlen : ¬ st.stack.length < u.inp.length)
    (hargs : (st.stack.take u.inp.length).map (resolve S) = u.inp.map (resolve S) ∨
             ((u.comm = true ∧ (BinOp.ofName? u.op).any (·.comm) = true) ∧
               (st.stack.take u.inp.length).map (resolve S) = (u.inp.map (resolve S)).reverse))
    (hfresh : id ∉ st.done) (pk : Nat) :
    ∃ i σ1, instrOfU u = some i ∧ step e i σ = some σ1 ∧
      RInv e σ₀ S { stack := (match u.out with
                              | some o => .var o :: st.stack.drop u.inp.length
                              | none => st.stack.drop u.inp.length),
                    done := st.done ++ [id], peak := pk } σ1 := by
  have hu : u ∈ S.instrs := List.mem_of_find?_eq_some hf
  have ok := InstrOk.of_realOk hok hu
  obtain ⟨hne, hstore⟩ := ok.eff he
  obtain ⟨_, hat, ⟨i, hi, hfi⟩, hload, hnoload⟩ := effOf_inv S u hne
  have hc := cOf_snoc e σ₀ S st.done id u hf
  -- the commutative flag is not set on a memory/storage operation
  have hdirect : (st.stack.take u.inp.length).map (resolve S) = u.inp.map (resolve S) :=
    hargs.resolve_right fun ⟨⟨h, _⟩, _⟩ => by obtain ⟨_, hpure, _⟩ := ok.comm h; rw [hpure] at he; cases he
  have hout' : u.out = (effOf S u).out? := by
    cases ho : (effOf S u).out? with
    | some o => exact hload o ho
    | none => exact hstore (hnoload ho)
  have hsplit := (hinv.top hok hdirect).2
  rw [← termsOf_tmD S u.inp _ hat] at hsplit
  refine ⟨i, _, hi, step_actEff e σ₀ _ i hfi _ σ _ hsplit hinv.mem hinv.sto, ?_⟩
  -- what is left of the stack keeps its value: a store loads nothing, and the result of a load is mentioned nowhere yet
  have hrest : ∀ a ∈ st.stack.drop u.inp.length,
      valA e σ₀ S (st.done ++ [id]) a = valA e σ₀ S st.done a ∧ Cell S (st.done ++ [id]) a := by
    intro a ha
    have hcell := hinv.cells a (List.mem_of_mem_drop ha)
    refine ⟨?_, hcell.mono [id]⟩
    simp only [valA, hc]
    refine ev_actEff e σ₀ _ _ _ hcell.pure fun o ho => ?_
    rw [← hout'] at ho
    exact fresh_load S hok st.done id u hf o ho hfresh _ hcell.loads (out_mem_loadOuts S u o hu he ho)
  rw [← hout']
  refine RInv.of_cells ?_ ?_ (by rw [hc]) (by rw [hc]) hinv.trace ?_
  · cases ho : u.out with
    | none => exact fun a ha => (hrest a ha).2
    | some o =>
      intro a ha
      rcases List.mem_cons.1 ha with rfl | ha
      · refine Cell.of_tmA (tmA_load S o (out_mem_loadOuts S u o hu he ho)) rfl fun o' _ hus => ?_
        simp only [usesLoad, beq_iff_eq, loadSym_eq] at hus
        exact ⟨id, by simp, by simp [hf, ho, hus]⟩
      · exact (hrest a ha).2
  · rw [← List.map_congr_left fun a ha => (hrest a ha).1]
    cases ho : u.out with
    | none => rfl
    | some o =>
      simp only [Option.toList, List.map_cons, List.map_nil, List.cons_append, List.nil_append, valA, hc,
        tmD_of_tmA (tmA_load S o (out_mem_loadOuts S u o hu he ho))]
  · intro s w h
    rw [hc] at h
    rcases lv_actEff e σ₀ _ _ s w h with h | h
    · exact hinv.lvdom s w h
    · exact out_mem_loadOuts S u s hu he (hout'.trans h)

theorem exec_one (i : Instr) (σ σ1 : St) (h : step e i σ = some σ1) : exec e [i] σ = some σ1 := by
  simp [exec, h]

/-- `PUSH#`, `POP`, `DUP`, `SWAP`: the instruction `i` of `id` rearranges the machine's stack as the step rearranges the
    abstract one -/
theorem RInv.restack_exec {S : Spec} {st : RunSt} {σ : St} (h : RInv e σ₀ S st σ) {id : String} {i : Instr}
    (hi : instrsOfId S id = some [i]) (stack : List Atom) (pk : Nat)
    (hs : step e i σ = some { σ with stack := stack.map (valA e σ₀ S st.done) ++ σ₀.stack.drop S.src.length })
    (hcell : ∀ a ∈ stack, Cell S st.done a) :
    ∃ is σ1, instrsOfId S id = some is ∧ exec e is σ = some σ1 ∧
      RInv e σ₀ S { stack := stack, done := st.done, peak := pk } σ1 :=
  ⟨_, _, hi, exec_one e i σ _ hs, h.restack stack st.done pk rfl hcell⟩

theorem stepId_sim (S : Spec) (hok : realOk S = true) (st st1 : RunSt) (σ : St) (id : String)
    (hinv : RInv e σ₀ S st σ) (hstep : stepId S st id = .ok st1)
    (hfresh : st1.done = st.done ++ [id] → isEffId S id = true → id ∉ st.done) :
    ∃ is σ1, instrsOfId S id = some is ∧ exec e is σ = some σ1 ∧ RInv e σ₀ S st1 σ1 := by
  have hstk := hinv.stack
  have hcell := hinv.cells
  cases stepId_inv S st st1 id hstep with
  | nop hi => exact ⟨[], σ, hi, rfl, hinv⟩
  | push n hi =>
    refine hinv.restack_exec e σ₀ hi (.const n :: st.stack) _ ?_ fun a ha => (List.mem_cons.1 ha).elim
      (· ▸ Cell.of_tmA (tmA_const S n) rfl fun o _ h => by simp [usesLoad] at h) (hcell a)
    simp only [step, hstk, List.map_cons, List.cons_append, valA, tmD_of_tmA (tmA_const S n), evalW]
  | pop a r hi hs =>
    refine hinv.restack_exec e σ₀ hi r _ ?_ fun b hb => hcell b (hs ▸ List.mem_cons_of_mem _ hb)
    simp only [step, hstk, hs, List.map_cons, List.cons_append]
  | dup k a hi hk0 _ ha =>
    have hget : σ.stack[k - 1]? = some (valA e σ₀ S st.done a) := hstk ▸ getElem?_map_append ha _ _
    refine hinv.restack_exec e σ₀ hi (a :: st.stack) _ ?_ fun b hb => (List.mem_cons.1 hb).elim
      (· ▸ hcell a (List.mem_of_getElem? ha)) (hcell b)
    simp only [step, hk0, if_false, hget, List.map_cons, List.cons_append, ← hstk]
  | swap k top a rest hi hk0 _ hs ha =>
    refine hinv.restack_exec e σ₀ hi (a :: rest.set (k - 1) top) _ ?_ fun b hb => hcell b (hs ▸ ?_)
    · simp only [step, hk0, if_false, hstk, hs, List.map_cons, List.cons_append, getElem?_map_append ha,
        set_map_append (List.getElem?_eq_some_iff.1 ha).1]
    · rcases List.mem_cons.1 hb with rfl | hb
      · exact List.mem_cons_of_mem _ (List.mem_of_getElem? ha)
      · exact (List.mem_or_eq_of_mem_set hb).elim (List.mem_cons_of_mem _) (· ▸ List.mem_cons_self)
  | op u stack hi hf hlen hargs _ hst =>
    subst hst
    suffices ∃ i σ1, instrOfU u = some i ∧ step e i σ = some σ1 ∧ RInv e σ₀ S _ σ1 by
      obtain ⟨i, σ1, hi1, hs1, hr⟩ := this
      exact ⟨[i], σ1, by rw [hi, hi1]; rfl, exec_one e i σ σ1 hs1, hr⟩
    cases he : u.isEffect with
    | true =>
      exact eff_sim e σ₀ S hok st σ id u hf he hinv (Nat.not_lt.2 hlen) hargs (hfresh rfl (by simp [isEffId, hf, he])) _
    | false =>
      obtain ⟨_, o, _, ho, _⟩ := (InstrOk.of_realOk hok (List.mem_of_find?_eq_some hf)).pure he
      exact ho ▸ pure_sim e σ₀ S hok st σ id u hf he hinv (Nat.not_lt.2 hlen) hargs o ho _

theorem stepId_done (S : Spec) (st st1 : RunSt) (id : String) (h : stepId S st id = .ok st1) :
    st1.done = st.done ∨ st1.done = st.done ++ [id] := by
  cases stepId_inv S st st1 id h <;> simp

theorem runIds_done (S : Spec) (ids : List String) (st st' : RunSt) (h : runIds S ids st = .ok st') :
    st.done <+: st'.done :=
  runIds_invariant S (st.done <+: ·.done)
    (fun s id s1 hs hp => (stepId_done S s s1 id hs).elim (· ▸ hp) (· ▸ hp.trans (List.prefix_append ..)))
    ids st st' h (List.prefix_refl _)

theorem runIds_sim (S : Spec) (hok : realOk S = true) :
    ∀ (ids : List String) (st st' : RunSt) (σ : St), RInv e σ₀ S st σ → runIds S ids st = .ok st' →
      (schedOf S st'.done).Nodup →
      ∃ A σ', asmOf S ids = some A ∧ exec e A σ = some σ' ∧ RInv e σ₀ S st' σ'
  | [], st, st', σ, hinv, h, _ => by
    cases h
    exact ⟨[], σ, rfl, rfl, hinv⟩
  | id :: ids, st, st', σ, hinv, h, hnd => by
    obtain ⟨st1, hs, h⟩ := runIds_cons_inv S id ids st st' h
    have hfresh : st1.done = st.done ++ [id] → isEffId S id = true → id ∉ st.done := by
      intro h1 hp ha
      -- `st.done ++ [id]` begins the final list of identifiers, among whose operations `id` would occur twice
      have := ((runIds_done S ids st1 st' h).filter (isEffId S)).sublist.nodup hnd
      rw [h1, List.filter_append] at this
      exact (List.nodup_append.1 this).2.2 id (List.mem_filter.2 ⟨ha, hp⟩) id (by simp [hp]) rfl
    obtain ⟨is, σ1, hi, hx, hinv1⟩ := stepId_sim e σ₀ S hok st st1 σ id hinv hs hfresh
    obtain ⟨A, σ', hA, hx', hinv'⟩ := runIds_sim S hok ids st1 st' σ1 hinv1 h hnd
    refine ⟨is ++ A, σ', by simp [asmOf, hi, hA], ?_, hinv'⟩
    rw [exec_append, hx]; exact hx'

theorem runSched_filter (S : Spec) (L : List String) (c : CSt) :
    runSched e σ₀ S (L.filter (isEffId S)) c = runSched e σ₀ S L c := by
  unfold runSched
  induction L generalizing c with
  | nil => rfl
  | cons id L ih =>
    cases hp : isEffId S id <;> simp only [List.filter_cons, hp, Bool.false_eq_true, if_false, if_true, runActs]
    · -- an identifier that names no memory/storage operation does nothing
      have : effId S id = .skip := by
        unfold effId isEffId at *
        cases hf : S.find? id with
        | none => rfl
        | some u => rw [hf] at hp; exact effOf_pure S u hp
      rw [this]; exact ih _
    · exact ih _

theorem rinv_init (S : Spec) (hok : realOk S = true) (hσ : S.src.length ≤ σ₀.stack.length) (pk : Nat) :
    RInv e σ₀ S { stack := S.src.map .var, peak := pk } σ₀ := by
  have hn := realOk_names S hok
  refine RInv.of_cells ?_ ?_ rfl rfl rfl fun s w h => by simp [cOf, runSched, runActs, initC] at h
  · intro a ha
    obtain ⟨s, hs, rfl⟩ := List.mem_map.1 ha
    exact Cell.of_tmA (tmA_src S hn s hs) rfl fun o _ h => by simp [usesLoad] at h
  · -- the `i`-th initial word is the value of `.var i`, the term of the `i`-th of the (distinct) initial variables
    conv => lhs; rw [← List.take_append_drop S.src.length σ₀.stack]
    congr 1
    refine List.ext_getElem (by simp [hσ]) fun i h1 h2 => ?_
    have hi : i < S.src.length := by simpa using h2
    simp [valA, tmD_of_tmA (tmA_src S hn _ (List.getElem_mem hi)), evalW, (realOk_nodup S hok).idxOf_getElem i hi,
      List.getElem?_eq_getElem (Nat.lt_of_lt_of_le hi hσ)]

/-- **C04, semantically**: an identifier sequence that realizes a specification (whose executable premises hold) and
    performs no memory/storage operation twice stands for EVM instructions that, from every state at least as deep
    as the specification's initial stack and in every environment, end in exactly the state the specification denotes
    under the schedule in which the sequence performs the operations. -/
theorem realizes_exec (S : Spec) (hok : realOk S = true) (ids : List String) (st : RunSt)
    (hr : realizes S ids = .ok st) (hnd : (schedOf S st.done).Nodup)
    (X : SymSt) (hX : evalSpec S (schedOf S st.done) = some X)
    (σ : St) (hσ : S.src.length ≤ σ.stack.length) :
    ∃ A, asmOf S ids = some A ∧ exec e A σ = some (X.conc e σ) := by
  obtain ⟨hrun, hfin, _⟩ := realizes_inv S ids st hr
  obtain ⟨A, σ', hA, hx, hinv⟩ := runIds_sim e σ S hok ids _ st σ (rinv_init e σ S hok hσ _) hrun hnd
  refine ⟨A, hA, hx.trans (congrArg some ?_)⟩
  obtain ⟨stk', hstk', hden⟩ := evalSpec_denote e σ S (realOk_names S hok) _ X hX
  obtain rfl := termsOf_tmD S S.tgt stk' hstk'
  rw [schedOf, runSched_filter] at hden
  refine conc_of_denote e σ hden ?_ hinv.mem hinv.sto hinv.trace
  rw [hinv.stack, map_of_resolve _ (valA_resolve e σ S hok st.done) hfin, evalSpec_base S _ X hX, List.map_map]
  rfl

/-- **block → specification → sequence (C02 + C04/C06 ⇒ C01)**.  Let the conflicting operations of `S` be ordered
    by `edges`, let ONE schedule `L₁` respecting `edges` match the block `B` (the premises of C02's theorem), and let
    `ids` realize `S`, performing the memory/storage operations once each, in an order `schedOf S st.done` that respects
    `edges`.  Then the instructions the identifiers stand for and the block compute the same final state from every
    state deep enough, in every well-formed environment.  Every premise is executable and is evaluated by the driver
    (`REALEXEC`) on each (block, specification, solution) the real tool produces. -/
theorem realized_sequence_exec (S : Spec) (hok : realOk S = true)
    (edges : List (String × String)) (fuel : Nat) (L₁ : List String) (B : List Instr)
    (hnd : L₁.Nodup) (hco : conflictsOrdered S edges fuel L₁ = true)
    (hr₁ : respectsB L₁ edges = true) (hm : scheduleMatches norm3 S L₁ B = true)
    (ids : List String) (st : RunSt) (hr : realizes S ids = .ok st)
    (hp : L₁.Perm (schedOf S st.done)) (hr₂ : respectsB (schedOf S st.done) edges = true)
    (X₂ : SymSt) (h₂ : evalSpec S (schedOf S st.done) = some X₂) :
    ∃ A Y, asmOf S ids = some A ∧ symExec B .init = some Y ∧
      ∀ (e : GasolVerif.Env), e.wf → ∀ σ : St, max S.src.length Y.base ≤ σ.stack.length →
        exec e B σ = some (X₂.conc e σ) ∧ exec e A σ = some (X₂.conc e σ) := by
  have hB := spec_denotes_block_under_every_schedule S (realOk_names S hok) edges fuel L₁ _ B hnd hp hco hr₁ hr₂ hm X₂ h₂
  have hA := fun e => realizes_exec e S hok ids st hr (hp.nodup_iff.1 hnd) X₂ h₂
  -- neither the instruction list nor the symbolic run of the block depends on the environment or the state: take them
  -- from one
  let e₁ : GasolVerif.Env :=
    { sym := fun _ => 0, env0 := fun _ _ => 0, env1 := fun _ _ _ => 0, keccak := fun _ _ => 0, ext := fun _ _ _ m s => ⟨0, m, s⟩ }
  let σ₁ : St := { stack := List.replicate S.src.length 0#256, mem := fun _ => 0, sto := fun _ => 0, trace := [] }
  obtain ⟨Y, hY, -⟩ := hB e₁ ⟨fun _ _ _ => BitVec.zero_and, fun _ => rfl, fun _ _ _ _ => rfl⟩ σ₁
  obtain ⟨A, hA₁, -⟩ := hA e₁ σ₁ (by simp [σ₁])
  refine ⟨A, Y, hA₁, hY, fun e we σ hd => ?_⟩
  obtain ⟨Y', hY', hB'⟩ := hB e we σ
  obtain ⟨A', hA', hx⟩ := hA e σ (Nat.le_trans (Nat.le_max_left ..) hd)
  cases hY.symm.trans hY'
  cases hA₁.symm.trans hA'
  exact ⟨hB' hd, hx⟩

/-- when the specification's initial stack is not deeper than what the block itself reads, the sequence may replace
    the block (`ObsEq`: from every state on which the block runs, the sequence runs and ends in the same state) -/
theorem realized_sequence_obsEq (S : Spec) (hok : realOk S = true)
    (edges : List (String × String)) (fuel : Nat) (L₁ : List String) (B : List Instr)
    (hnd : L₁.Nodup) (hco : conflictsOrdered S edges fuel L₁ = true)
    (hr₁ : respectsB L₁ edges = true) (hm : scheduleMatches norm3 S L₁ B = true)
    (ids : List String) (st : RunSt) (hr : realizes S ids = .ok st)
    (hp : L₁.Perm (schedOf S st.done)) (hr₂ : respectsB (schedOf S st.done) edges = true)
    (X₂ : SymSt) (h₂ : evalSpec S (schedOf S st.done) = some X₂)
    (Y : SymSt) (hY : symExec B .init = some Y) (hdeep : S.src.length ≤ Y.base) :
    ∃ A, asmOf S ids = some A ∧ ObsEq B A := by
  obtain ⟨A, Y', hA, hY', hex⟩ := realized_sequence_exec S hok edges fuel L₁ B hnd hco hr₁ hm ids st hr hp hr₂ X₂ h₂
  cases hY.symm.trans hY'
  refine ⟨A, hA, fun e we σ σ' hrun => ?_⟩
  by_cases hb : Y.base ≤ σ.stack.length
  · obtain ⟨h1, h2⟩ := hex e we σ (Nat.max_le.2 ⟨Nat.le_trans hdeep hb, hb⟩)
    exact h2.trans (h1.symm.trans hrun)
  · rw [symExec_init e σ B Y hY, if_neg hb] at hrun
    cases hrun

end GasolVerif.Spec
