/-
  C07, pricing: `penalty_affine` — for every valuation that satisfies the domain constraints, the soft-constraint
  objective equals the charged weight of the decoded instructions up to a constant of the instance; `telescope`,
  `layer_cake`, `term_miss`, `sum_exchange` are its steps; `decoded_decodeAt` provides the decoding.
-/
import GasolVerif.Models.EncodingSoft
import GasolVerif.Proofs.EncodingOrderSound
namespace GasolVerif.Enc
open GasolVerif.Formula

theorem sum_map_add {α} (f g : α → Nat) (l : List α) :
    (l.map fun a => f a + g a).sum = (l.map f).sum + (l.map g).sum := by
  induction l with
  | nil => simp
  | cons a l ih => simp only [List.map_cons, List.sum_cons, ih]; omega

theorem sum_exchange {α β} (f : α → β → Nat) (l₁ : List α) (l₂ : List β) :
    (l₁.map fun a => (l₂.map fun b => f a b).sum).sum = (l₂.map fun b => (l₁.map fun a => f a b).sum).sum := by
  induction l₁ with
  | nil => simp [List.map_const']
  | cons a l₁ ih =>
    simp only [List.map_cons, List.sum_cons, ih]
    rw [sum_map_add (fun b => f a b) (fun b => (l₁.map fun a => f a b).sum) l₂]

theorem sum_map_flatMap {α β} (f : α → List β) (g : β → Nat) (l : List α) :
    ((l.flatMap f).map g).sum = (l.map fun a => ((f a).map g).sum).sum := by
  induction l with
  | nil => rfl
  | cons a l ih => simp [ih]

theorem sum_map_filterMap {α β} (f : α → Option β) (g : β → Nat) (l : List α) :
    ((l.filterMap f).map g).sum = (l.map fun a => ((f a).map g).getD 0).sum := by
  induction l with
  | nil => rfl
  | cons a l ih => cases h : f a <;> simp [h, ih]

theorem penalty_eq (I : Inst) (v : Val) (ws : List (Nat × Nat)) :
    penalty v (softGrouped I ws) =
      ((steps (levels ws)).map fun s => ((rangeL 0 I.b0).map fun j => term I v ws s j).sum).sum := by
  simp only [penalty, softGrouped, sum_map_flatMap, sum_map_filterMap]
  refine congrArg List.sum (List.map_congr_left fun s _ => congrArg List.sum (List.map_congr_left fun j _ => ?_))
  unfold term
  cases softClause I ws s.2 j <;> rfl

theorem mem_cheaper (ws : List (Nat × Nat)) (c th : Nat) : th ∈ cheaper ws c ↔ ∃ w, (th, w) ∈ ws ∧ w < c := by
  simp only [cheaper, List.mem_map, List.mem_filter, List.mem_mergeSort, decide_eq_true_eq, Prod.exists,
    exists_and_right, exists_eq_right]

/-- the decoding the order theorems provide: position `j` holds `dec j`, an instruction of the instance admissible at `j` -/
structure Decoded (I : Inst) (v : Val) (dec : Nat → Nat) : Prop where
  isInstr : ∀ j, j < I.b0 → ∃ ins ∈ I.instrs, ins.theta = dec j
  holds : ∀ j, j < I.b0 → At I v j (dec j)
  range : ∀ j, j < I.b0 → inRange I j (dec j) = true

theorem Decoded.at_iff {I : Inst} {v : Val} {dec : Nat → Nat} (D : Decoded I v dec) (H : OrderHyp I v) (ins : Instr)
    (hm : ins ∈ I.instrs) (j : Nat) (hj : j < I.b0) : At I v j ins.theta ↔ dec j = ins.theta := by
  obtain ⟨ins', hm', e'⟩ := D.isInstr j hj
  have hat' : At I v j ins'.theta := e' ▸ D.holds j hj
  exact ⟨fun h => e' ▸ H.thetaInj ins' hm' ins hm (hat'.symm.trans h), fun h => h ▸ D.holds j hj⟩

/-- one level at one position: the clause is violated, or missing, exactly when the instruction there is not cheaper -/
theorem term_miss (I : Inst) (v : Val) (H : OrderHyp I v) (ws : List (Nat × Nat))
    (hkeys : ∀ p ∈ ws, ∃ ins ∈ I.instrs, ins.theta = p.1) (dec : Nat → Nat) (D : Decoded I v dec)
    (s : Nat × Nat) (j : Nat) (hj : j < I.b0) :
    term I v ws s j + miss I ws s j = if dec j ∈ cheaper ws s.2 then 0 else s.2 - s.1 := by
  -- the clause holds exactly when the decoded instruction is one of its disjuncts
  have hiff : evalB v (.conn .or (((cheaper ws s.2).filter (inRange I j)).map fun th => isT I j th)) =
      decide (dec j ∈ cheaper ws s.2) := by
    rw [Bool.eq_iff_iff]
    simp only [evalB_or, evalAny_map, evalB_isT', List.mem_filter, decide_eq_true_eq]
    constructor
    · rintro ⟨th, ⟨hth, _⟩, hat⟩
      obtain ⟨w, hw, _⟩ := (mem_cheaper ws s.2 th).mp hth
      obtain ⟨ins, hi, rfl⟩ := hkeys (th, w) hw
      rwa [(D.at_iff H ins hi j hj).mp hat]
    · exact fun h => ⟨dec j, ⟨h, D.range j hj⟩, D.holds j hj⟩
  unfold term miss softClause
  by_cases he : ((cheaper ws s.2).filter (inRange I j)).isEmpty = true
  · simp [List.isEmpty_iff.mp he, evalAny] at hiff ⊢
    exact fun h => absurd h hiff
  · simp [he, hiff]

theorem steps_eq_zip : ∀ L : List Nat, steps L = L.zip L.tail
  | [] | [_] => rfl
  | _ :: b :: r => congrArg _ (steps_eq_zip (b :: r))

/-- `x ≤ a` is admitted (both sides are then `0`) so that the induction goes through when `x` is the first level -/
theorem telescope_cons (x : Nat) : ∀ (r : List Nat) (a : Nat), (a :: r).Pairwise (· < ·) → x ∈ a :: r ∨ x ≤ a →
    ((steps (a :: r)).map fun s => if x < s.2 then 0 else s.2 - s.1).sum = x - a
  | [], a, _, hx => (Nat.sub_eq_zero_of_le (hx.elim (fun h => Nat.le_of_eq (List.mem_singleton.mp h)) id)).symm
  | b :: t, a, hp, hx => by
    have hab : a < b := List.rel_of_pairwise_cons hp List.mem_cons_self
    have hp' := hp.of_cons
    -- one step of `steps`, unfolded by `show` (rewriting with its equation lemmas is slow to check)
    show (if x < b then 0 else b - a) + ((steps (b :: t)).map fun s => if x < s.2 then 0 else s.2 - s.1).sum =
      x - a
    by_cases hxa : x ≤ a
    · have hxb := Nat.le_trans hxa (Nat.le_of_lt hab)
      rw [telescope_cons x t b hp' (Or.inr hxb), if_pos (Nat.lt_of_le_of_lt hxa hab), Nat.sub_eq_zero_of_le hxa,
        Nat.sub_eq_zero_of_le hxb]
    · have hx' : x ∈ b :: t := (List.mem_cons.mp (hx.resolve_right hxa)).resolve_left fun e => hxa (Nat.le_of_eq e)
      have hbx : b ≤ x := (List.mem_cons.mp hx').elim (fun e => Nat.le_of_eq e.symm)
        fun h => Nat.le_of_lt (List.rel_of_pairwise_cons hp' h)
      rw [telescope_cons x t b hp' (Or.inl hx'), if_neg (Nat.not_lt.mpr hbx), Nat.add_comm]
      exact Nat.sub_add_sub_cancel hbx (Nat.le_of_lt hab)

theorem telescope : ∀ (L : List Nat), L.Pairwise (· < ·) → ∀ (a : Nat) (r : List Nat), L = a :: r → ∀ x, x ∈ L →
    ((steps L).map fun s => if x < s.2 then 0 else s.2 - s.1).sum = x - a := by
  rintro _ hp a r rfl x hx
  exact telescope_cons x r a hp (Or.inl hx)

theorem top_level (L : List Nat) (hp : L.Pairwise (· < ·)) (hne : L ≠ []) :
    L.getLast?.getD 0 ∈ L ∧ ∀ c ∈ L, c ≤ L.getLast?.getD 0 := by
  obtain ⟨x, hx⟩ := Option.isSome_iff_exists.mp (List.getLast?_isSome.mpr hne)
  obtain ⟨ys, rfl⟩ := List.getLast?_eq_some_iff.mp hx
  rw [hx]
  refine ⟨by simp, fun c hc => ?_⟩
  rcases List.mem_append.mp hc with h | h
  · exact Nat.le_of_lt ((List.pairwise_append.mp hp).2.2 c h x (by simp))
  · simp at h; simp [h]

/-- what the executable premise `softOk` says -/
structure SoftOk (I : Inst) (ws : List (Nat × Nat)) : Prop where
  sorted : (levels ws).Pairwise (· < ·)
  weights : ∀ p ∈ ws, p.2 ∈ levels ws
  ne : levels ws ≠ []
  nodup : (ws.map (·.1)).Nodup
  keys : ∀ p ∈ ws, ∃ ins ∈ I.instrs, ins.theta = p.1

theorem SoftOk.of_softOk {I : Inst} {ws : List (Nat × Nat)} (hok : softOk I ws = true) : SoftOk I ws := by
  simp only [softOk, Bool.and_eq_true, decide_eq_true_eq, List.all_eq_true, Bool.not_eq_true', List.contains_eq_mem,
    List.isEmpty_eq_false_iff, List.any_eq_true, beq_iff_eq, and_assoc] at hok
  obtain ⟨sorted, weights, ne, nodup, keys⟩ := hok
  exact ⟨sorted, weights, ne, nodup, keys⟩

/-- the charged weight is a level, and the one that decides `cheaper` at the levels -/
theorem cw_spec {I : Inst} {ws : List (Nat × Nat)} (h : SoftOk I ws) (th : Nat) :
    cw ws th ∈ levels ws ∧ ∀ c ∈ levels ws, (th ∈ cheaper ws c ↔ cw ws th < c) := by
  simp only [mem_cheaper, cw]
  cases hl : ws.lookup th with
  | some w =>
    have hm := lookup_mem ws th w hl
    refine ⟨h.weights _ hm, fun c _ => ⟨fun ⟨w', hw', hlt⟩ => ?_, fun hlt => ⟨w, hm, hlt⟩⟩⟩
    exact (Prod.mk.inj (inj_on_of_nodup_map (·.1) ws h.nodup _ hw' _ hm rfl)).2 ▸ hlt
  | none =>
    obtain ⟨hmem, hle⟩ := top_level _ h.sorted h.ne
    refine ⟨hmem, fun c hc => ⟨fun ⟨w, hw, _⟩ => ?_, fun hlt => absurd (hle c hc) (Nat.not_le.mpr hlt)⟩⟩
    exact absurd rfl (bne_iff_ne.mp (List.lookup_eq_none_iff.mp hl _ hw))

/-- layer cake: the levels charged for one instruction add up to its weight above the lowest level -/
theorem layer_cake (I : Inst) (ws : List (Nat × Nat)) (hok : softOk I ws = true) (th : Nat) :
    ((steps (levels ws)).map fun s => if th ∈ cheaper ws s.2 then 0 else s.2 - s.1).sum =
      cw ws th - (levels ws).head?.getD 0 := by
  have h := SoftOk.of_softOk hok
  obtain ⟨hcw, hiff⟩ := cw_spec h th
  obtain ⟨a, r, hL⟩ := List.exists_cons_of_ne_nil h.ne
  rw [show (levels ws).head?.getD 0 = a by rw [hL]; rfl, ← telescope _ h.sorted a r hL _ hcw]
  refine congrArg List.sum (List.map_congr_left fun s hs => ?_)
  simp only [hiff s.2 (List.mem_of_mem_tail (List.of_mem_zip (steps_eq_zip _ ▸ hs)).2)]

/-- **C07, pricing**: for every valuation that decodes (`Decoded`), the soft-constraint objective equals the total
    charged weight of the decoded instructions, minus the lowest level per position and minus a constant that
    depends on the instance only. -/
theorem penalty_affine (I : Inst) (v : Val) (H : OrderHyp I v) (ws : List (Nat × Nat)) (hok : softOk I ws = true)
    (dec : Nat → Nat) (D : Decoded I v dec) :
    penalty v (softGrouped I ws) + missTotal I ws =
      ((rangeL 0 I.b0).map fun j => cw ws (dec j) - (levels ws).head?.getD 0).sum := by
  calc penalty v (softGrouped I ws) + missTotal I ws
      = ((steps (levels ws)).map fun s =>
          ((rangeL 0 I.b0).map fun j => if dec j ∈ cheaper ws s.2 then 0 else s.2 - s.1).sum).sum := by
        rw [penalty_eq, missTotal, ← sum_map_add]
        refine congrArg List.sum (List.map_congr_left fun s _ => ?_)
        rw [← sum_map_add]
        exact congrArg List.sum (List.map_congr_left fun j hj =>
          term_miss I v H ws (SoftOk.of_softOk hok).keys dec D s j ((mem_rangeL 0 I.b0 j).mp hj).2)
    _ = _ := by
        rw [sum_exchange]
        exact congrArg List.sum (List.map_congr_left fun j _ => layer_cake I ws hok (dec j))

theorem penalty_difference (I : Inst) (v₁ v₂ : Val) (H₁ : OrderHyp I v₁) (H₂ : OrderHyp I v₂) (ws : List (Nat × Nat))
    (hok : softOk I ws = true) (d₁ d₂ : Nat → Nat) (D₁ : Decoded I v₁ d₁) (D₂ : Decoded I v₂ d₂) :
    (penalty v₁ (softGrouped I ws) : Int) - penalty v₂ (softGrouped I ws) =
      (((rangeL 0 I.b0).map fun j => cw ws (d₁ j) - (levels ws).head?.getD 0).sum : Int) -
      ((rangeL 0 I.b0).map fun j => cw ws (d₂ j) - (levels ws).head?.getD 0).sum := by
  have e1 := penalty_affine I v₁ H₁ ws hok d₁ D₁
  have e2 := penalty_affine I v₂ H₂ ws hok d₂ D₂
  omega

theorem decoded_decodeAt (I : Inst) (v : Val) (H : OrderHyp I v) : Decoded I v (decodeAt I v) := by
  have key : ∀ j, j < I.b0 → ∃ ins ∈ I.instrs, ins.theta = decodeAt I v j ∧ (ins.lb ≤ j ∧ j ≤ ins.ub) ∧ At I v j ins.theta := by
    intro j hj
    obtain ⟨ins', hm', hb, hT⟩ := domain_sound I v j (H.dom j hj)
    obtain ⟨ins, hf⟩ := Option.isSome_iff_exists.mp (List.find?_isSome.mpr ⟨ins', hm', by simp [hb, hT]⟩ :
      (I.instrs.find? fun ins => decide (ins.lb ≤ j) && decide (j ≤ ins.ub) && (T v j == thetaV I v ins.theta)).isSome)
    have hp := List.find?_some hf
    simp only [Bool.and_eq_true, decide_eq_true_eq, beq_iff_eq] at hp
    exact ⟨ins, List.mem_of_find?_eq_some hf, by simp [decodeAt, hf], hp⟩
  constructor
  · intro j hj; obtain ⟨ins, hm, e, _⟩ := key j hj; exact ⟨ins, hm, e⟩
  · intro j hj; obtain ⟨ins, _, e, _, ha⟩ := key j hj; exact e ▸ ha
  · intro j hj
    obtain ⟨ins, hm, e, ⟨h1, h2⟩, _⟩ := key j hj
    obtain ⟨el, eu⟩ := lbOf_eq I H.nodup ins hm
    simp [inRange, ← e, el, eu, h1, h2]

end GasolVerif.Enc
