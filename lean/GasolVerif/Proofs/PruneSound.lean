/-
  C02: where a specification and the same specification without loads whose results nothing uses both evaluate, under a schedule
  and the schedule without those loads, they evaluate to the same symbolic state (`prune_evalSpec`).  So what the check
  establishes for the pruned specification holds for the emitted one.
-/
import GasolVerif.Models.Prune
import GasolVerif.Proofs.SpecSim
namespace GasolVerif.Spec

theorem find?_filter_same {α} (p q : α → Bool) (l : List α) (h : ∀ x ∈ l, p x = true → q x = true) :
    (l.filter q).find? p = l.find? p := by
  -- `find?` is the head of the filter
  rw [← List.head?_filter, List.filter_filter, ← List.head?_filter (l := l)]
  exact congrArg _ (List.filter_congr fun x hx => Bool.and_eq_left_iff_imp.2 (h x hx))

variable (S : Spec) (R : List String) (deps : List (String × String))

theorem out_removed (u : UInstr) (hu : u ∈ S.instrs) (hr : R.contains u.id = true) (o : String) (ho : u.out = some o) :
    o ∈ removedOuts S R :=
  List.mem_filterMap.2 ⟨u, List.mem_filter.2 ⟨hu, hr⟩, ho⟩

theorem producer_without (v : String) (hv : v ∉ removedOuts S R) :
    (without S R deps).producer? v = S.producer? v :=
  find?_filter_same _ _ _ fun u hu hp =>
    Bool.not_eq_true' _ ▸ Bool.eq_false_iff.2 fun hr => hv (out_removed S R u hu hr v (by simpa using hp))

theorem find_without (id : String) (hid : R.contains id = false) : (without S R deps).find? id = S.find? id :=
  find?_filter_same _ _ _ fun u _ hp => by rw [show u.id = id by simpa using hp, hid]; rfl

theorem mem_without (u : UInstr) (h : u ∈ (without S R deps).instrs) : u ∈ S.instrs ∧ R.contains u.id = false := by
  simp only [without, List.mem_filter, Bool.not_eq_true'] at h
  exact h

/-- `env'` (the pruned side, here and in `StRel`) binds what `env` binds, the removed results `RO` aside -/
def EnvRel (RO : List String) (env env' : Env) : Prop := ∀ v, v ∉ RO → env'.lookup v = env.lookup v

/-- what `pruneOk` checks, as far as the proofs need it -/
structure PruneOk : Prop where
  load : ∀ u ∈ S.instrs, R.contains u.id = true → isLoadOp u = true
  inp : ∀ u ∈ S.instrs, R.contains u.id = false → ∀ a ∈ u.inp, atomOk (removedOuts S R) a = true
  tgt : ∀ a ∈ S.tgt, atomOk (removedOuts S R) a = true

theorem pruneOk_spec (hok : pruneOk S R = true) : PruneOk S R := by
  simp only [pruneOk, Bool.and_eq_true, List.all_eq_true] at hok
  refine ⟨fun u hu hr => ?_, fun u hu hk => ?_, hok.2⟩
  all_goals have := hok.1 u hu
  · rw [if_pos hr, Bool.and_eq_true] at this; exact this.1
  · rw [if_neg (Bool.eq_false_iff.1 hk), Bool.and_eq_true, List.all_eq_true] at this; exact this.1

/-- the variables that are no removed result are closed under "operand of the producing instruction" -/
theorem kept_closed (hok : pruneOk S R = true) (v : String) (u : UInstr) (hv : v ∉ removedOuts S R) (hp : S.producer? v = some u)
    (w : String) (hw : .var w ∈ u.inp) : w ∉ removedOuts S R := by
  have hu : u ∈ S.instrs := List.mem_of_find?_eq_some hp
  have hk : R.contains u.id = false :=
    Bool.eq_false_iff.2 fun hr => hv (out_removed S R u hu hr v (by simpa using List.find?_some hp))
  simpa [atomOk] using (pruneOk_spec S R hok).inp u hu hk _ hw

theorem termOf_without (hok : pruneOk S R = true) (env env' : Env) (hrel : EnvRel (removedOuts S R) env env') : ∀ fuel : Nat,
    (∀ v t, v ∉ removedOuts S R → termOfVar (without S R deps) env' fuel v = some t → termOfVar S env fuel v = some t) ∧
    (∀ as ts, (∀ a ∈ as, atomOk (removedOuts S R) a = true) → termsOf (without S R deps) env' fuel as = some ts →
      termsOf S env fuel as = some ts) :=
  fun fuel =>
    have := termOf_sub (S := S) (S' := without S R deps) (P := (· ∉ removedOuts S R)) rfl hrel (producer_without S R deps)
      (fun v u hv hp _ => kept_closed S R hok v u hv hp) fuel
    ⟨fun v t hv h => this.1 v t h hv 0,
      fun as ts has h => this.2 as ts h (fun w hw => by simpa [atomOk] using has _ hw) 0⟩

structure StRel (RO : List String) (st st' : EvalSt) : Prop where
  mem : st'.mem = st.mem
  sto : st'.sto = st.sto
  env : EnvRel RO st.env st'.env

theorem envRel_cons_same (RO : List String) (env env' : Env) (h : EnvRel RO env env') (o : String) (t : Tm) :
    EnvRel RO ((o, t) :: env) ((o, t) :: env') := fun v hv => by
  rw [List.lookup_cons, List.lookup_cons, h v hv]

theorem envRel_cons_removed (RO : List String) (env env' : Env) (h : EnvRel RO env env') (o : String) (t : Tm) (ho : o ∈ RO) :
    EnvRel RO ((o, t) :: env) env' := fun v hv => by
  have hne : (v == o) = false := beq_eq_false_iff_ne.2 fun h' => hv (h' ▸ ho)
  rw [List.lookup_cons, hne, h v hv]

theorem Eff.step_rel {RO : List String} {id : String} {f : Eff} {st st' st1 st1' : EvalSt} (hr : StRel RO st st')
    (h : f.step id st = some st1) (h' : f.step id st' = some st1') : StRel RO st1 st1' := by
  cases f <;> cases h <;> cases h'
  case wmem | bmem => exact ⟨by simp [hr.mem], hr.sto, hr.env⟩
  case wsto => exact ⟨hr.mem, by simp [hr.sto], hr.env⟩
  case rmem | hmem => exact ⟨hr.mem, hr.sto, hr.mem ▸ envRel_cons_same RO _ _ hr.env _ _⟩
  case rsto => exact ⟨hr.mem, hr.sto, hr.sto ▸ envRel_cons_same RO _ _ hr.env _ _⟩

theorem Eff.step_removed {RO : List String} {id o : String} {f : Eff} {st st' st1 : EvalSt} (hr : StRel RO st st')
    (ho : f.out? = some o) (hro : o ∈ RO) (h : f.step id st = some st1) : StRel RO st1 st' := by
  cases f <;> cases ho <;> cases h <;> exact ⟨hr.mem, hr.sto, envRel_cons_removed _ _ _ hr.env _ _ hro⟩

/-- with the fuel each specification is evaluated with: the smaller one has no more -/
theorem terms_without (hok : pruneOk S R = true) {env env' : Env} (hrel : EnvRel (removedOuts S R) env env') {as : List Atom}
    {ts : List Tm} (has : ∀ a ∈ as, atomOk (removedOuts S R) a = true)
    (h : termsOf (without S R deps) env' (fuelOf (without S R deps)) as = some ts) : termsOf S env (fuelOf S) as = some ts :=
  have hf : fuelOf (without S R deps) ≤ fuelOf S :=
    Nat.add_le_add_right (List.length_filter_le (fun u : UInstr => !R.contains u.id) S.instrs) 2
  (termOf_mono_le S env _ _ hf).2 as ts ((termOf_without S R deps hok env env' hrel _).2 as ts has h)

theorem step_kept (hok : pruneOk S R = true) (u : UInstr) (hu : u ∈ S.instrs) (hk : R.contains u.id = false)
    {st st' st1 st1' : EvalSt} (hr : StRel (removedOuts S R) st st')
    (h : stepEffect S st u = some st1) (h' : stepEffect (without S R deps) st' u = some st1') :
    StRel (removedOuts S R) st1 st1' := by
  obtain ⟨a, ha, h⟩ := stepEffect_some.1 h
  obtain ⟨a', ha', h'⟩ := stepEffect_some.1 h'
  cases ha.symm.trans (terms_without S R deps hok hr.env ((pruneOk_spec S R hok).inp u hu hk) ha')
  exact Eff.step_rel hr h h'

theorem isStore_of_isLoadOp {u : UInstr} (h : isLoadOp u = true) : u.isStore = false := by
  simp only [isLoadOp, Bool.or_eq_true, beq_iff_eq] at h
  rcases h with ((h | h) | h) | h <;> simp [UInstr.isStore, h]

/-- a removed operation is a load: it only binds its (removed) result -/
theorem step_removed (hok : pruneOk S R = true) (u : UInstr) (hu : u ∈ S.instrs) (hrm : R.contains u.id = true)
    {st st' st1 : EvalSt} (hr : StRel (removedOuts S R) st st') (h : stepEffect S st u = some st1) :
    StRel (removedOuts S R) st1 st' := by
  obtain ⟨a, -, h⟩ := stepEffect_some.1 h
  obtain ⟨-, hout, hst⟩ := effOn_spec u a fun hs => by rw [hs] at h; cases h
  cases ho : (effOn u a).out? with
  | some o => exact Eff.step_removed hr ho (out_removed S R u hu hrm o (hout o ho)) h
  | none => cases (hst ho).symm.trans (isStore_of_isLoadOp ((pruneOk_spec S R hok).load u hu hrm)) -- it would be a store

theorem run_rel (hok : pruneOk S R = true) : ∀ (L : List String) (st st' stf stf' : EvalSt), StRel (removedOuts S R) st st' →
    runSchedule S L st = some stf →
    runSchedule (without S R deps) (L.filter fun id => !R.contains id) st' = some stf' → StRel (removedOuts S R) stf stf'
  | [], st, st', stf, stf', hr, h, h' => by cases h; cases h'; exact hr
  | id :: L, st, st', stf, stf', hr, h, h' => by
    obtain ⟨u, st1, hf, hs, h⟩ := runSchedule_cons_some.1 h
    have hu : u ∈ S.instrs := List.mem_of_find?_eq_some hf
    have hid : u.id = id := by simpa using List.find?_some hf
    cases hrm : R.contains id with
    | true =>
      simp only [List.filter_cons, hrm, Bool.not_true, Bool.false_eq_true, if_false] at h'
      exact run_rel hok L st1 st' stf stf' (step_removed S R hok u hu (hid ▸ hrm) hr hs) h h'
    | false =>
      simp only [List.filter_cons, hrm, Bool.not_false, if_true] at h'
      obtain ⟨u', st1', hf', hs', h'⟩ := runSchedule_cons_some.1 h'
      cases (find_without S R deps id hrm ▸ hf').symm.trans hf
      exact run_rel hok L st1 st1' stf stf' (step_kept S R deps hok u hu (hid ▸ hrm) hr hs hs') h h'

/-- leaving out loads whose results nothing uses does not change what a specification denotes: if the specification evaluates under
    a schedule `L` and the specification without `R` under `L` without the removed identifiers, the two symbolic states are the same -/
theorem prune_evalSpec (hok : pruneOk S R = true) (L : List String) (X X' : SymSt)
    (h : evalSpec S L = some X) (h' : evalSpec (without S R deps) (L.filter fun id => !R.contains id) = some X') : X = X' := by
  obtain ⟨stf, stk, hr, ht, rfl⟩ := evalSpec_some.1 h
  obtain ⟨stf', stk', hr', ht', rfl⟩ := evalSpec_some.1 h'
  have hrel := run_rel S R deps hok L {} {} stf stf' ⟨rfl, rfl, fun _ _ => rfl⟩ hr hr'
  cases ht.symm.trans (terms_without S R deps hok hrel.env (pruneOk_spec S R hok).tgt ht')
  simp [hrel.mem, hrel.sto, without]

/-- **C02 for the emitted specification**: let `S'` be `S` without the loads `R` whose results nothing uses (`pruneOk`), and let the
    premises of `spec_denotes_block_under_every_schedule` hold for `S'` (conflicts ordered by `edges`, one schedule `L₁` matching the block).
    Then under EVERY schedule `L` of the emitted specification `S` under which it evaluates and whose kept part `L₂` is an admissible
    schedule of `S'` under which `S'` evaluates, the block computes exactly the state `S` denotes under `L`. -/
theorem spec_denotes_block_pruned (S : Spec) (R : List String) (deps : List (String × String)) (hok : pruneOk S R = true)
    (hn : namesOk (without S R deps) = true)
    (edges : List (String × String)) (fuel : Nat) (L₁ L : List String) (B : List Instr)
    (hnd : L₁.Nodup) (hp : L₁.Perm (L.filter fun id => !R.contains id))
    (hco : conflictsOrdered (without S R deps) edges fuel L₁ = true)
    (hr₁ : respectsB L₁ edges = true) (hr₂ : respectsB (L.filter fun id => !R.contains id) edges = true)
    (hm : scheduleMatches norm3 (without S R deps) L₁ B = true)
    (X X₂ : SymSt) (hX : evalSpec S L = some X) (h₂ : evalSpec (without S R deps) (L.filter fun id => !R.contains id) = some X₂)
    (e : GasolVerif.Env) (we : e.wf) (σ : St) :
    ∃ Y, symExec B .init = some Y ∧
      (max S.src.length Y.base ≤ σ.stack.length → exec e B σ = some (X.conc e σ)) := by
  have hXX := prune_evalSpec S R deps hok L X X₂ hX h₂
  subst hXX
  exact spec_denotes_block_under_every_schedule (without S R deps) hn edges fuel L₁ _ B hnd hp hco hr₁ hr₂ hm X h₂ e we σ

end GasolVerif.Spec
