/-
  C15: theorems about Models/Plain.lean — numerals (`int(hex(n)[2:],16) = n`, leading zeros, `0x`, upper case,
  decimal), every spelling of a constant is read as that constant (`spelling_value`), and printing a block then
  reading it back yields the block (`parse_print`).
-/
import GasolVerif.Models.Plain
namespace GasolVerif.Plain

theorem digitsVal_append (dig : Char → Option Nat) (b : Nat) (xs ys : Tok) (acc : Nat) :
    digitsVal dig b (xs ++ ys) acc = (digitsVal dig b xs acc).bind (digitsVal dig b ys) := by
  induction xs generalizing acc with
  | nil => simp [digitsVal]
  | cons c cs ih =>
    simp only [List.cons_append, digitsVal]
    cases dig c with
    | none => simp
    | some d => simp [ih]

theorem digitsVal_isSome (dig : Char → Option Nat) (b : Nat) :
    ∀ (ds : Tok) (acc : Nat), (digitsVal dig b ds acc).isSome = ds.all fun c => (dig c).isSome
  | [], _ => rfl
  | c :: cs, acc => by
    simp only [digitsVal, List.all_cons]
    cases dig c with
    | none => rfl
    | some d => exact digitsVal_isSome dig b cs _

/-- `Nat.toDigits b` is read back as the number it printed; `f` respells the digits (upper case) -/
theorem digitsVal_toDigits (dig : Char → Option Nat) (f : Char → Char) (b : Nat) (hb : 1 < b)
    (hd : ∀ d < b, dig (f (Nat.digitChar d)) = some d) (n : Nat) :
    digitsVal dig b ((Nat.toDigits b n).map f) 0 = some n := by
  induction n using Nat.strongRecOn with
  | _ n ih =>
    rw [Nat.toDigits_eq_if hb]
    split
    · rename_i h
      simp only [List.map_cons, List.map_nil, digitsVal, hd n h, Nat.zero_mul, Nat.zero_add]
    · rw [List.map_append, digitsVal_append, ih (n / b) (Nat.div_lt_self (by omega) hb)]
      simp only [Option.bind_some, List.map_cons, List.map_nil, digitsVal, hd _ (Nat.mod_lt _ (by omega)), Nat.div_add_mod']

theorem digitsVal_zeros (dig : Char → Option Nat) (b : Nat) (h0 : dig '0' = some 0) (k : Nat) (ds : Tok) :
    digitsVal dig b (List.replicate k '0' ++ ds) 0 = digitsVal dig b ds 0 := by
  induction k with
  | zero => simp
  | succ k ih => simp [List.replicate_succ, digitsVal, h0, ih]

theorem strip0x_allHex (s : Tok) (h : allHex s = true) : strip0x s = s := by
  unfold strip0x
  split
  · exact absurd (List.all_eq_true.mp h 'x' (by simp)) (by decide)
  · exact absurd (List.all_eq_true.mp h 'X' (by simp)) (by decide)
  · rfl

theorem hexVal_allHex (s : Tok) (h : allHex s = true) (hne : s ≠ []) :
    hexVal? s = digitsVal hexDigit? 16 s 0 := by
  simp [hexVal?, strip0x_allHex s h, hne]

theorem allHex_append (a b : Tok) : allHex (a ++ b) = (allHex a && allHex b) := List.all_append

theorem allDec_append (a b : Tok) : allDec (a ++ b) = (allDec a && allDec b) := List.all_append

theorem allHex_zeros (k : Nat) (s : Tok) (h : allHex s = true) : allHex (List.replicate k '0' ++ s) = true := by
  rw [allHex_append, h, Bool.and_true, allHex, List.all_replicate]
  split <;> rfl

theorem allDec_zeros (k : Nat) : allDec (List.replicate k '0') = true := by
  rw [allDec, List.all_replicate]
  split <;> rfl

theorem hexVal_zeros (k : Nat) (s : Tok) (h : allHex s = true) (hne : s ≠ []) :
    hexVal? (List.replicate k '0' ++ s) = hexVal? s := by
  rw [hexVal_allHex _ (allHex_zeros k s h) (by simp [hne]), hexVal_allHex _ h hne]
  exact digitsVal_zeros _ _ (by decide) k s

theorem hexVal_0x (s : Tok) (h : allHex s = true) : hexVal? ('0' :: 'x' :: s) = hexVal? s := by
  have h1 : strip0x ('0' :: 'x' :: s) = s := rfl
  simp only [hexVal?, h1, strip0x_allHex s h]

/-- `s` is a hexadecimal numeral of `c`: digits only, at least one, of value `c`.  The spellings of a constant are built from
    `hexStr c` and `hexStrU c` by leading zeros, and the reader is insensitive to which numeral of `c` it is given. -/
structure HexNum (c : Nat) (s : Tok) : Prop where
  allHex : allHex s = true
  ne_nil : s ≠ []
  val : hexVal? s = some c

theorem HexNum.of_digits {c : Nat} {s : Tok} (h : digitsVal hexDigit? 16 s 0 = some c) (hne : s ≠ []) : HexNum c s := by
  have ha : Plain.allHex s = true := by rw [Plain.allHex, ← digitsVal_isSome hexDigit? 16 s 0, h]; rfl
  exact ⟨ha, hne, by rw [hexVal_allHex s ha hne, h]⟩

theorem hexStr_ne_nil (n : Nat) : hexStr n ≠ [] := Nat.toDigits_ne_nil

theorem hexStr_zero : hexStr 0 = ['0'] := Nat.toDigits_zero 16

theorem HexNum.lower (c : Nat) : HexNum c (hexStr c) :=
  .of_digits (by simpa [hexStr] using digitsVal_toDigits hexDigit? id 16 (by decide) (by decide) c) (hexStr_ne_nil c)

theorem HexNum.upper (c : Nat) : HexNum c (hexStrU c) :=
  .of_digits (digitsVal_toDigits hexDigit? upperHex 16 (by decide) (by decide) c) (by simp [hexStrU, hexStr, Nat.toDigits_ne_nil])

theorem HexNum.zeros {c : Nat} {s : Tok} (h : HexNum c s) (k : Nat) : HexNum c (List.replicate k '0' ++ s) :=
  ⟨allHex_zeros k s h.allHex, by simp [h.ne_nil], by rw [hexVal_zeros k s h.allHex h.ne_nil, h.val]⟩

theorem HexNum.with0x {c : Nat} {s : Tok} (h : HexNum c s) : hexVal? ('0' :: 'x' :: s) = some c := by
  rw [hexVal_0x s h.allHex, h.val]

theorem allHex_hexStr (n : Nat) : allHex (hexStr n) = true := (HexNum.lower n).allHex

theorem allHex_hexStrU (n : Nat) : allHex (hexStrU n) = true := (HexNum.upper n).allHex

/-- **`int(hex(n)[2:], 16) = n`** -/
theorem hexVal_hexStr (n : Nat) : hexVal? (hexStr n) = some n := (HexNum.lower n).val

/-- `'%X' % n` is read back as `n` too -/
theorem hexVal_hexStrU (n : Nat) : hexVal? (hexStrU n) = some n := (HexNum.upper n).val

theorem digitsVal_decStr (n : Nat) : digitsVal decDigit? 10 (decStr n) 0 = some n := by
  simpa [decStr] using digitsVal_toDigits decDigit? id 10 (by decide) (by decide) n

theorem decStr_ne_nil (n : Nat) : decStr n ≠ [] := Nat.toDigits_ne_nil

theorem allDec_decStr (n : Nat) : allDec (decStr n) = true := by
  rw [allDec, ← digitsVal_isSome decDigit? 10 (decStr n) 0, digitsVal_decStr]; rfl

/-- **`int(str(n)) = n`** -/
theorem decVal_decStr (n : Nat) : decVal? (decStr n) = some n := by
  simp [decVal?, decStr_ne_nil, digitsVal_decStr]

theorem decVal_zeros (k : Nat) (s : Tok) (hne : s ≠ []) :
    decVal? (List.replicate k '0' ++ s) = decVal? s := by
  simp [decVal?, hne, digitsVal_zeros _ _ (show decDigit? '0' = some 0 by decide)]

theorem isPrefixOf_false_of_not_mem (p s : Tok) (c : Char) (hc : c ∈ p) (hs : c ∉ s) : p.isPrefixOf s = false :=
  Bool.eq_false_iff.mpr fun h => hs ((List.isPrefixOf_iff_prefix.mp h).subset hc)

theorem hasSub_false_of_not_mem (p s : Tok) (c : Char) (hc : c ∈ p) (hs : c ∉ s) : hasSub p s = false := by
  induction s with
  | nil => cases p with | nil => cases hc | cons _ _ => rfl
  | cons x xs ih =>
    rw [hasSub, ih fun h => hs (List.mem_cons_of_mem _ h), Bool.or_false]
    exact isPrefixOf_false_of_not_mem p _ c hc hs

theorem not_yul (s : Tok) (nt : 't' ∉ s) (nh : '#' ∉ s) (nd : '$' ∉ s) : isYul s = false := by
  simp [isYul, hasSub_false_of_not_mem sTag s 't' (by decide) nt, hasSub_false_of_not_mem sData s 't' (by decide) nt, nh, nd]

theorem not_mem_of_allHex {s : Tok} (h : allHex s = true) {c : Char} (hc : (hexDigit? c).isSome = false) : c ∉ s :=
  fun hm => by rw [List.all_eq_true.mp h c hm] at hc; cases hc

theorem not_yul_of_allHex (s : Tok) (h : allHex s = true) : isYul s = false :=
  not_yul s (not_mem_of_allHex h (by decide)) (not_mem_of_allHex h (by decide)) (not_mem_of_allHex h (by decide))

theorem not_yul_0x (s : Tok) (h : allHex s = true) : isYul ('0' :: 'x' :: s) = false :=
  not_yul _ (by simp [not_mem_of_allHex h (c := 't') (by decide)]) (by simp [not_mem_of_allHex h (c := '#') (by decide)])
    (by simp [not_mem_of_allHex h (c := '$') (by decide)])

/-- how the reader treats a mnemonic: the first test of `parseOps` that applies -/
inductive Kind | tagged | lib | bare | zero | pushN | push
  deriving DecidableEq

def kindOf (op : Tok) : Kind :=
  if tagLike op then .tagged
  else if sPUSHLIB.isPrefixOf op then .lib
  else if !isPush op || hasSub sDeploy op || hasSub sSize op then .bare
  else if sPUSH0.isPrefixOf op then .zero
  else if isPushN op then .pushN
  else .push

theorem parseOps_cons (fuel : Nat) (op : Tok) (rest tbl : List Tok) :
    parseOps (fuel + 1) (op :: rest) tbl =
      match kindOf op, rest with
      | .tagged, v :: r => (parseOps fuel r tbl).map (⟨op, .str v⟩ :: ·)
      | .lib, v :: r => (parseOps fuel r (libIndex tbl v).2).map (⟨op, .idx (libIndex tbl v).1⟩ :: ·)
      | .bare, _ => (parseOps fuel rest tbl).map (⟨op, .none⟩ :: ·)
      | .zero, _ => (parseOps fuel rest tbl).map (⟨sPUSH, .str ['0']⟩ :: ·)
      | .pushN, v :: r =>
        (if ['0', 'x'].isPrefixOf v then (hexVal? v).map hexStr else (decVal? v).map hexStr).bind fun x =>
          (parseOps fuel r tbl).map (⟨sPUSH, .str x⟩ :: ·)
      | .push, k :: r =>
        if !isYul k then (hexVal? k).bind fun n => (parseOps fuel r tbl).map (⟨op, .str (hexStr n)⟩ :: ·)
        else
          match r with
          | v :: r' => (hexVal? v).bind fun n => (parseOps fuel r' tbl).map (⟨op ++ ' ' :: k, .str (hexStr n)⟩ :: ·)
          | [] => none
      | _, [] => none := by
  simp only [parseOps, kindOf]
  -- with the outcome of a test put in, both sides compute up to the next one
  cases tagLike op
  case true => cases rest <;> rfl
  cases sPUSHLIB.isPrefixOf op
  case true => cases rest <;> rfl
  cases isPush op
  case false => rfl
  cases hasSub sDeploy op
  case true => rfl
  cases hasSub sSize op
  case true => rfl
  cases sPUSH0.isPrefixOf op
  case true => rfl
  cases isPushN op <;> cases rest <;> rfl

theorem parse_push_hex (s : Tok) (hy : isYul s = false) (n : Nat) (hv : hexVal? s = some n) :
    parse [sPUSH, s] = some [⟨sPUSH, .str (hexStr n)⟩] := by
  have hk : kindOf sPUSH = .push := by decide
  simp [parse, parseOps_cons, hk, hy, hv, parseOps]

theorem kindOf_mnem (m : Tok) (h : mnemOk m = true) : kindOf m = .pushN := by
  simp only [mnemOk, Bool.and_eq_true, Bool.not_eq_true'] at h
  obtain ⟨hN, h0⟩ := h
  have hN' := hN
  simp only [isPushN, Bool.and_eq_true, List.all_eq_true, decide_eq_true_eq] at hN'
  obtain ⟨⟨hp, -⟩, hall⟩ := hN'
  -- the tests for the other mnemonics look for a character that is neither in `PUSH` nor a digit, so not in `m`
  have nm (c : Char) (hc : c ∉ sPUSH ∧ ¬('0' ≤ c ∧ c ≤ '9') := by decide) : c ∉ m := by
    obtain ⟨r, rfl⟩ := List.isPrefixOf_iff_prefix.mp hp
    exact fun hm => (List.mem_append.mp hm).elim hc.1 fun hr => hc.2 (hall c hr)
  have hA := isPrefixOf_false_of_not_mem sAssign m 'A' (by decide) (nm 'A')
  have hT := isPrefixOf_false_of_not_mem sTag m 't' (by decide) (nm 't')
  have hL := isPrefixOf_false_of_not_mem sPUSHLIB m 'L' (by decide) (nm 'L')
  have hD := hasSub_false_of_not_mem sDeploy m 'D' (by decide) (nm 'D')
  have hI := hasSub_false_of_not_mem sSize m 'I' (by decide) (nm 'I')
  simp [kindOf, tagLike, isPush, hA, hT, hL, hp, hD, hI, h0, hN]

theorem parse_pushN_0x (m s : Tok) (hm : mnemOk m = true) (n : Nat) (hv : hexVal? ('0' :: 'x' :: s) = some n) :
    parse [m, '0' :: 'x' :: s] = some [⟨sPUSH, .str (hexStr n)⟩] := by
  simp [parse, parseOps_cons, kindOf_mnem m hm, List.isPrefixOf, hv, parseOps]

theorem parse_pushN_dec (m s : Tok) (hm : mnemOk m = true) (n : Nat) (hv : decVal? s = some n) :
    parse [m, s] = some [⟨sPUSH, .str (hexStr n)⟩] := by
  have hx : ['0', 'x'].isPrefixOf s = false := by
    cases h : ['0', 'x'].isPrefixOf s with
    | false => rfl
    | true =>
      obtain ⟨r, rfl⟩ := List.isPrefixOf_iff_prefix.mp h
      simp [decVal?, digitsVal, show decDigit? '0' = some 0 by decide, show decDigit? 'x' = none by decide] at hv
  simp [parse, parseOps_cons, kindOf_mnem m hm, hx, hv, parseOps]

/-- **C15, third clause**: however a constant is written, the reader yields one `PUSH` whose value denotes it -/
theorem spelling_value (c : Nat) (toks : List Tok) (h : Spelling c toks) :
    ∃ v, parse toks = some [⟨sPUSH, .str v⟩] ∧ hexVal? v = some c := by
  refine ⟨hexStr c, ?_, hexVal_hexStr c⟩
  have push (s : Tok) (h : HexNum c s) := parse_push_hex s (not_yul_of_allHex s h.allHex) c h.val
  cases h with
  | hex k => exact push _ ((HexNum.lower c).zeros k)
  | hexUpper k => exact push _ ((HexNum.upper c).zeros k)
  | hex0x k => exact parse_push_hex _ (not_yul_0x _ ((HexNum.lower c).zeros k).allHex) c ((HexNum.lower c).zeros k).with0x
  | pushN0x m hm k => exact parse_pushN_0x m _ hm c ((HexNum.lower c).zeros k).with0x
  | pushN0xUpper m hm k => exact parse_pushN_0x m _ hm c ((HexNum.upper c).zeros k).with0x
  | pushNdec m hm k =>
    exact parse_pushN_dec m _ hm c (by rw [decVal_zeros k _ (decStr_ne_nil c), decVal_decStr])

theorem noBlank_cons {c : Char} {cs : Tok} (h : noBlank (c :: cs) = true) : c ≠ ' ' ∧ noBlank cs = true := by
  simp only [noBlank, List.contains_cons, Bool.not_or, Bool.and_eq_true, Bool.not_eq_true', beq_eq_false_iff_ne, ne_eq] at h
  exact ⟨fun hh => h.1 hh.symm, by simp only [noBlank, h.2]; rfl⟩

theorem splitBlank_noBlank (a : Tok) (h : noBlank a = true) : splitBlank a = [a] := by
  induction a with
  | nil => rfl
  | cons c cs ih => simp only [splitBlank, (noBlank_cons h).1, if_false, ih (noBlank_cons h).2]

theorem splitBlank_append (a b : Tok) (h : noBlank a = true) : splitBlank (a ++ ' ' :: b) = a :: splitBlank b := by
  induction a with
  | nil => simp [splitBlank]
  | cons c cs ih => simp only [List.cons_append, splitBlank, (noBlank_cons h).1, if_false, ih (noBlank_cons h).2]

theorem splitBlank_ne_nil (d : Tok) : splitBlank d ≠ [] := by
  fun_cases splitBlank d <;> exact List.cons_ne_nil _ _

theorem joinBlank_splitBlank (d : Tok) : joinBlank (splitBlank d) = d := by
  induction d with
  | nil => rfl
  | cons c cs ih =>
    obtain ⟨x, r, h⟩ := List.exists_cons_of_ne_nil (splitBlank_ne_nil cs)
    rw [h] at ih
    simp only [splitBlank, h]
    split
    · rename_i hc; simp [joinBlank, ih, hc]
    · cases r <;> simp [joinBlank] at ih ⊢ <;> exact ih      -- `joinBlank` asks whether a token follows

theorem toPlain_none (p0 : Bool) (d : Tok) : toPlain p0 ⟨d, none⟩ = [d] := by simp [toPlain]

theorem toPlain_some (p0 : Bool) (d v : Tok) (hj : hasSub sJump d = false) (hz : (p0 && d == sPUSH && v == ['0']) = false) :
    toPlain p0 ⟨d, some v⟩ = splitBlank d ++ [v] := by
  simp only [toPlain, Option.some_beq_some, hz, hj, Bool.false_eq_true, if_false]

theorem parseOps_push0 (fuel : Nat) (rest tbl : List Tok) :
    parseOps (fuel + 1) (sPUSH0 :: rest) tbl = (parseOps fuel rest tbl).map (⟨sPUSH, .str ['0']⟩ :: ·) := by
  rw [parseOps_cons, show kindOf sPUSH0 = .zero by decide]

/-- the classes of `classOf` in the reader's terms: what the item looks like and how `parseOps` will treat its mnemonic -/
inductive Covered : Item → Cls → Prop
  | zero : Covered ⟨sPUSH0, none⟩ .zero
  | bare (d : Tok) (hk : kindOf d = .bare) : Covered ⟨d, none⟩ .bare
  | tagged (d v : Tok) (hj : hasSub sJump d = false) (hk : kindOf d = .tagged) (hb : noBlank d = true) :
      Covered ⟨d, some v⟩ .tagged
  | num (d v : Tok) (hj : hasSub sJump d = false) (hk : kindOf d = .push) (hb : noBlank d = true)
      (hv : allHex v = true ∧ v ≠ []) : Covered ⟨d, some v⟩ .num
  | kw (k v : Tok) (hj : hasSub sJump (sPUSH ++ ' ' :: k) = false) (hb : noBlank k = true) (hy : isYul k = true)
      (hv : allHex v = true ∧ v ≠ []) : Covered ⟨sPUSH ++ ' ' :: k, some v⟩ .kw

theorem classOf_covered {i : Item} {c : Cls} : classOf i = some c → Covered i c := by
  obtain ⟨d, val⟩ := i
  -- of the eleven places where `classOf` returns, five return a class
  fun_cases classOf ⟨d, val⟩ <;> rintro ⟨⟩
  case case1 hv h0 =>                              -- `.zero`: no value, the mnemonic is `PUSH0`
    cases hv; cases eq_of_beq h0
    exact .zero
  case case2 hv _ hb =>                            -- `.bare`: no value, a mnemonic the reader gives no operand
    cases hv
    simp only [Bool.and_eq_true, Bool.not_eq_true'] at hb
    exact .bare d (by simp only [kindOf, hb.1.1.2, hb.1.2, hb.2, Bool.false_eq_true, if_false, if_true])
  case case5 v hv hj htag hs =>                    -- `.tagged`: `tag` or `ASSIGNIMMUTABLE`, the value kept as it is
    cases hv
    simp only [simple, Bool.and_eq_true] at hs
    exact .tagged d v (Bool.eq_false_iff.mpr hj) (by simp only [kindOf, htag, if_true]) hs.1.1
  case case8 v hv hj htag hhex hnum =>             -- `.num`: a hexadecimal value after a push of no special form
    cases hv
    simp only [simple, Bool.and_eq_true, Bool.not_eq_true'] at hnum
    obtain ⟨⟨⟨⟨⟨⟨hs, hp⟩, hl⟩, hdp⟩, hsz⟩, h0⟩, hN⟩ := hnum
    refine .num d v (Bool.eq_false_iff.mpr hj) ?_ hs.1 (by simpa using hhex)
    simp only [kindOf, htag, hl, hp, hdp, hsz, h0, hN, Bool.not_true, Bool.or_self, Bool.false_eq_true, if_false]
  case case9 v hv hj _ hhex _ p k hsp hk =>        -- `.kw`: the mnemonic is `PUSH k` with `isYul k` (`[tag]`, `data`, `#[$]`, …)
    cases hv
    simp only [simple, Bool.and_eq_true, beq_iff_eq] at hk
    obtain ⟨⟨rfl, hsk, -⟩, hyk⟩ := hk
    obtain rfl : d = sPUSH ++ ' ' :: k := by rw [← joinBlank_splitBlank d, show splitBlank d = _ from hsp]; rfl
    exact .kw k v (Bool.eq_false_iff.mpr hj) hsk hyk (by simpa using hhex)

theorem parse_step (p0 : Bool) (i : Item) (c : Cls) (hc : classOf i = some c) (rest : List Tok) (tbl : List Tok)
    (fuel : Nat) :
    parseOps (fuel + 1) (toPlain p0 i ++ rest) tbl = (parseOps fuel rest tbl).map (opOf i :: ·) := by
  have hexVal (v : Tok) (hv : allHex v = true ∧ v ≠ []) : ∃ n, hexVal? v = some n :=
    Option.isSome_iff_exists.mp (by rw [hexVal_allHex v hv.1 hv.2, digitsVal_isSome]; exact hv.1)
  cases classOf_covered hc with
  | zero => simp only [toPlain_none, List.singleton_append, parseOps_push0, opOf, hc]
  | bare d hk => simp only [toPlain_none, List.singleton_append, parseOps_cons, hk, opOf, hc]
  | tagged d v hj hk hb =>
    have hd : d ≠ sPUSH := by rintro rfl; cases hk
    simp only [toPlain_some p0 d v hj (by simp [hd]), splitBlank_noBlank d hb, List.cons_append, List.nil_append, parseOps_cons,
      hk, opOf, hc]
  | num d v hj hk hb hv =>
    obtain ⟨n, hn⟩ := hexVal v hv
    cases hz : p0 && d == sPUSH && v == ['0'] with
    | true =>
      simp only [Bool.and_eq_true, beq_iff_eq] at hz
      obtain ⟨⟨rfl, rfl⟩, rfl⟩ := hz
      -- the item is `PUSH 0`, printed as `PUSH0`: what is left on both sides computes
      exact parseOps_push0 fuel rest tbl
    | false =>
      simp only [toPlain_some p0 d v hj hz, splitBlank_noBlank d hb, List.cons_append, List.nil_append, parseOps_cons, hk,
        not_yul_of_allHex v hv.1, Bool.not_false, if_true, hn, Option.bind_some, opOf, hc, Option.getD_some]
  | kw k v hj hb hy hv =>
    obtain ⟨n, hn⟩ := hexVal v hv
    simp only [toPlain_some p0 _ v hj (by simp), splitBlank_append sPUSH k (by decide), splitBlank_noBlank k hb, List.cons_append,
      List.nil_append, parseOps_cons, show kindOf sPUSH = .push by decide, hy, Bool.not_true, Bool.false_eq_true, if_false, hn,
      Option.bind_some, opOf, hc, Option.getD_some]

theorem parseOps_print (p0 : Bool) (tbl : List Tok) :
    ∀ (B : List Item) (fuel : Nat), covered B = true → B.length ≤ fuel →
      parseOps fuel (printBlock p0 B) tbl = some (B.map opOf)
  | [], fuel, _, _ => by cases fuel <;> simp [printBlock, parseOps]
  | i :: B, 0, _, hf => by simp at hf
  | i :: B, fuel + 1, hc, hf => by
    simp only [covered, List.all_cons, Bool.and_eq_true] at hc
    obtain ⟨c, hcl⟩ := Option.isSome_iff_exists.mp hc.1
    have ih := parseOps_print p0 tbl B fuel hc.2 (Nat.le_of_succ_le_succ hf)
    simp only [printBlock, List.flatMap_cons] at ih ⊢
    rw [parse_step p0 i c hcl, ih]
    rfl

theorem toPlain_length_pos (p0 : Bool) (i : Item) : 1 ≤ (toPlain p0 i).length := by
  fun_cases toPlain p0 i <;> simp

theorem printBlock_length (p0 : Bool) (B : List Item) : B.length ≤ (printBlock p0 B).length := by
  induction B with
  | nil => simp [printBlock]
  | cons i B ih =>
    simp only [printBlock, List.flatMap_cons, List.length_append, List.length_cons] at ih ⊢
    have := toPlain_length_pos p0 i
    omega

/-- **C15, second clause on the model**: printing a block (with either PUSH0 setting) and reading the text back
    yields the block again — every item is read as `opOf` of it: names and tagged values unchanged, numeric values
    as the canonical spelling of the same number, a zero push as `PUSH 0` -/
theorem parse_print (p0 : Bool) (B : List Item) (h : covered B = true) :
    parse (printBlock p0 B) = some (B.map opOf) :=
  parseOps_print p0 [] B _ h (printBlock_length p0 B)

/-- the value of a numeric item is preserved by the round trip -/
theorem opOf_num_value (i : Item) (v : Tok) (n : Nat) (hv : i.value = some v) (hn : hexVal? v = some n)
    (hc : classOf i = some .num ∨ classOf i = some .kw) :
    ∃ w, (opOf i).value = .str w ∧ hexVal? w = some n ∧ (opOf i).name = i.disasm := by
  rcases hc with hc | hc <;> exact ⟨hexStr n, by simp [opOf, hc, hv, hn], hexVal_hexStr n, by simp [opOf, hc, hv]⟩

/-- canonical digits are kept literally: `hex(int(v,16))[2:] = v` when `v` is what `hex` prints -/
theorem hexStr_hexVal_canonical (n : Nat) : (hexVal? (hexStr n)).map hexStr = some (hexStr n) := by
  simp [hexVal_hexStr]

end GasolVerif.Plain
