/-
  C05: `cmp_sound` — where `compare_variables` answers equal, the two variables have the same value under every
  interpretation of the specifications' symbols that is symmetric on the operations flagged commutative (initial
  stack words by name, integers, valued records by operation and value, everything else by operation and operands).
-/
import GasolVerif.Models.Cmp
namespace GasolVerif.Cmp
open GasolVerif.Spec

theorem defsOf_mem (S : CSpec) (x : Atom) (a : CInstr) (r : List CInstr) (h : defsOf S x = a :: r) :
    a ∈ S.instrs ∧ ∃ v, x = .var v ∧ v ∈ a.out := by
  cases x with
  | const n => simp [defsOf] at h
  | var v =>
    have hm : a ∈ S.instrs.filter fun u => u.out.contains v := by simp only [defsOf] at h; rw [h]; simp
    rw [List.mem_filter] at hm
    exact ⟨hm.1, v, rfl, by simpa using hm.2⟩

section
variable {ι : Interp} {S : CSpec} {f : Nat} {v : String} {a : CInstr} {r : List CInstr}

theorem den_succ {x : Atom} {vo : Int} (h : den ι S f x = some vo) : ∃ f', f = f' + 1 := by
  cases f with
  | zero => simp [den] at h
  | succ f' => exact ⟨f', rfl⟩

theorem den_const {n : Nat} : den ι S (f + 1) (.const n) = some (ι.const n) := by
  simp only [den]

theorem den_src (h : S.src.contains v = true) : den ι S (f + 1) (.var v) = some (ι.srcv v) := by
  simp only [den, h, if_true]

theorem den_valued {t : String} (hs : S.src.contains v = false) (hd : defsOf S (.var v) = a :: r) (ht : a.value = some t) :
    den ι S (f + 1) (.var v) = some (ι.valued a.op t) := by
  simp only [den, hs, hd, ht, Bool.false_eq_true, if_false]

theorem den_app (hs : S.src.contains v = false) (hd : defsOf S (.var v) = a :: r) (ht : a.value = none) :
    den ι S (f + 1) (.var v) = (denArgs ι S f a.inp).map (ι.app a.op) := by
  simp only [den, hs, hd, ht, Bool.false_eq_true, if_false]

theorem denArgs_nil : denArgs ι S f [] = some [] := by
  simp only [denArgs]

theorem denArgs_cons {x : Atom} {xs : List Atom} {vs : List Int} (h : denArgs ι S f (x :: xs) = some vs) :
    ∃ a as, den ι S f x = some a ∧ denArgs ι S f xs = some as ∧ vs = a :: as := by
  simp only [denArgs] at h
  split at h <;> try contradiction      -- an operand without a value: `none`
  rename_i a as ha has
  exact ⟨a, as, ha, has, (Option.some.inj h).symm⟩
end

theorem denArgs_congr (ι : Interp) (O P : CSpec) (f1 f2 : Nat) : ∀ (xs ys : List Atom) (vos vps : List Int),
    xs.length = ys.length →
    (∀ p ∈ xs.zip ys, ∀ vo vp, den ι O f1 p.1 = some vo → den ι P f2 p.2 = some vp → vo = vp) →
    denArgs ι O f1 xs = some vos → denArgs ι P f2 ys = some vps → vos = vps
  | [], [], _, _, _, _, h1, h2 => by
    rw [denArgs_nil] at h1 h2
    exact Option.some.inj (h1.symm.trans h2)
  | x :: xs, y :: ys, vos, vps, hl, hp, h1, h2 => by
    obtain ⟨a, as, ha, has, rfl⟩ := denArgs_cons h1
    obtain ⟨b, bs, hb, hbs, rfl⟩ := denArgs_cons h2
    rw [hp (x, y) List.mem_cons_self a b ha hb,
      denArgs_congr ι O P f1 f2 xs ys as bs (Nat.succ.inj hl) (fun p hm => hp p (List.mem_cons_of_mem _ hm)) has hbs]

theorem cmpArgs_true (O P : CSpec) (fuel : Nat) : ∀ xs ys, cmpArgs O P fuel xs ys = some true →
    ∀ p ∈ xs.zip ys, cmpVar O P fuel p.1 p.2 = some true
  | [], _, _ => by simp
  | _ :: _, [], _ => by simp
  | x :: xs, y :: ys, h => by
    simp only [cmpArgs] at h
    split at h <;> try contradiction      -- a comparison that raises: `none`
    rename_i r rs hr hrs
    simp only [Option.some.injEq, Bool.and_eq_true] at h
    exact List.forall_mem_cons.mpr ⟨h.1 ▸ hr, cmpArgs_true O P fuel xs ys (h.2 ▸ hrs)⟩

theorem cmpRev_true (O P : CSpec) (fuel : Nat) : ∀ xs ys, cmpRev O P fuel xs ys = some true →
    ∀ p ∈ xs.zip ys, cmpVar O P fuel p.1 p.2 = some true
  | [], _, _ => by simp
  | _ :: _, [], _ => by simp
  | x :: xs, y :: ys, h => by
    simp only [cmpRev] at h
    split at h <;> try contradiction      -- `cmpVar` raises or answers `false`: so does `cmpRev`
    rename_i hr
    exact List.forall_mem_cons.mpr ⟨hr, cmpRev_true O P fuel xs ys h⟩

/-- `compare_variables` answers `equal` in two ways only: the same initial stack variable or integer on both sides, or two
    defined variables whose first records have the same operation and either the same `value` or operands that compare
    equal, in order or (commutative record) against the reversed list -/
theorem cmpVar_true {O P : CSpec} {n : Nat} {x y : Atom} : cmpVar O P n x y = some true →
    ∃ fuel, n = fuel + 1 ∧ ((x = y ∧ (inSrc O x = true ∨ isInt x = true)) ∨
    ∃ a ra b rb, (!inSrc O x && !isInt x) = true ∧ defsOf O x = a :: ra ∧ defsOf P y = b :: rb ∧ a.op = b.op ∧
      (((a.value.isSome && b.value.isSome) = true ∧ a.value = b.value) ∨
       ((a.value.isSome && b.value.isSome) = false ∧
        (cmpArgs O P fuel a.inp b.inp = some true ∨
         a.comm = true ∧ cmpRev O P fuel a.inp b.inp.reverse = some true)))) := by
  -- of the twelve places where `cmpVar` returns, four can return `some true`
  fun_cases cmpVar O P n x y
  case case12 fuel h3 h1 h2 =>      -- the final `else some true`: an initial stack variable or an integer, equal on both sides
    refine fun _ => ⟨fuel, rfl, .inl ?_⟩
    revert h1 h2 h3
    cases inSrc O x <;> cases isInt x <;> simp
  case case6 | case8 | case10 =>      -- defined variables: same `value`; operands equal in order; equal against the reversed list
    -- every conjunct is a hypothesis of the case (`fun_cases` leaves them in no useful order), up to the spelling of the Boolean guards
    exact fun h => ⟨_, rfl, .inr ⟨_, _, _, _, ‹_›, ‹_›, ‹_›, by simp_all⟩⟩
  all_goals nofun      -- the other places return `none` or `some false`

/-- the first conjunct of `cmp_sound` is the theorem; the other two follow from it by `cmpArgs_true`, `cmpRev_true` and
    `denArgs_congr` -/
theorem cmpVar_sound (O P : CSpec) (ι : Interp) (hok : pairOk O P = true) (hcomm : ι.CommOk O) :
    ∀ fuel x y, cmpVar O P fuel x y = some true →
      ∀ f1 f2 vo vp, den ι O f1 x = some vo → den ι P f2 y = some vp → vo = vp := by
  simp only [pairOk, Bool.and_eq_true, beq_iff_eq, List.all_eq_true, Bool.or_eq_true, Bool.not_eq_true',
    bne_iff_ne, ne_eq] at hok
  obtain ⟨⟨⟨⟨hsrc, -⟩, hclP⟩, hsame⟩, hbin⟩ := hok      -- in the order of `pairOk`; that no record of `O` defines a source is not used
  intro fuel
  induction fuel with
  | zero => intro x y h; simp [cmpVar] at h
  | succ fuel ih =>
    intro x y h f1 f2 vo vp h1 h2
    obtain ⟨f1, rfl⟩ := den_succ h1
    obtain ⟨f2, rfl⟩ := den_succ h2
    obtain ⟨_, hn, hcase⟩ := cmpVar_true h
    cases hn
    rcases hcase with ⟨rfl, hx⟩ | ⟨a, ra, b, rb, hs, heo, hep, hop, hcase⟩
    · cases x with
      | const n => rw [den_const] at h1 h2; exact Option.some.inj (h1.symm.trans h2)
      | var v =>
        have hv : O.src.contains v = true := by simpa [inSrc, isInt] using hx
        rw [den_src hv] at h1
        rw [den_src (hsrc ▸ hv)] at h2
        exact Option.some.inj (h1.symm.trans h2)
    · obtain ⟨haO, v, rfl, -⟩ := defsOf_mem O x a ra heo
      obtain ⟨hbP, w, rfl, hwb⟩ := defsOf_mem P y b rb hep
      have hw : P.src.contains w = false := by simpa using hclP b hbP w hwb
      have hvs : O.src.contains v = false := by simpa [inSrc, isInt] using hs
      have hab := (hsame a haO b hbP).resolve_left (not_not_intro hop)
      rcases hcase with ⟨hv, hval⟩ | ⟨hv, hargs⟩
      · -- both records carry the same `value`
        obtain ⟨t, ht⟩ := Option.isSome_iff_exists.mp (Bool.and_eq_true_iff.mp hv).1
        rw [den_valued hvs heo ht] at h1
        rw [den_valued hw hep (hval ▸ ht), ← hop] at h2
        exact Option.some.inj (h1.symm.trans h2)
      · -- neither does, since they agree on carrying one
        have hnone : a.value = none ∧ b.value = none := by
          cases hav : a.value <;> cases hbv : b.value <;> simp [hav, hbv] at hv hab ⊢
        rw [den_app hvs heo hnone.1] at h1
        rw [den_app hw hep hnone.2] at h2
        obtain ⟨vos, hao, rfl⟩ := Option.map_eq_some_iff.mp h1
        obtain ⟨vps, hap, rfl⟩ := Option.map_eq_some_iff.mp h2
        rw [hop]
        rcases hargs with hargs | ⟨hcm, hrev⟩
        · exact congrArg _ (denArgs_congr ι O P f1 f2 _ _ vos vps hab.1
            (fun p hp => ih _ _ (cmpArgs_true O P fuel _ _ hargs p hp) f1 f2) hao hap)
        · -- a commutative record has two operands: `[x0, x1]` was matched against `[y1, y0]`
          have h2len : a.inp.length = 2 := (hbin a haO).resolve_left (by simp [hcm])
          match hai : a.inp, hbi : b.inp, h2len, hab.1 with
          | [x0, x1], [y0, y1], _, _ =>
            rw [hai, hbi] at hrev
            have hp := cmpRev_true O P fuel _ _ hrev
            rw [hai] at hao; rw [hbi] at hap
            obtain ⟨a0, _, d0, ha1, rfl⟩ := denArgs_cons hao
            obtain ⟨a1, _, d1, ha2, rfl⟩ := denArgs_cons ha1
            obtain ⟨b0, _, e0, hb1, rfl⟩ := denArgs_cons hap
            obtain ⟨b1, _, e1, hb2, rfl⟩ := denArgs_cons hb1
            rw [denArgs_nil] at ha2 hb2
            cases ha2; cases hb2
            rw [ih x0 y1 (hp (x0, y1) (by simp)) f1 f2 a0 b1 d0 e1, ih x1 y0 (hp (x1, y0) (by simp)) f1 f2 a1 b0 d1 e0,
              ← hop]
            exact hcomm a haO hcm b1 b0

theorem cmp_sound (O P : CSpec) (ι : Interp) (hok : pairOk O P = true) (hcomm : ι.CommOk O) :
    ∀ fuel : Nat,
      (∀ x y, cmpVar O P fuel x y = some true →
        ∀ f1 f2 vo vp, den ι O f1 x = some vo → den ι P f2 y = some vp → vo = vp) ∧
      (∀ xs ys, cmpArgs O P fuel xs ys = some true → xs.length = ys.length →
        ∀ f1 f2 vos vps, denArgs ι O f1 xs = some vos → denArgs ι P f2 ys = some vps → vos = vps) ∧
      (∀ xs ys, cmpRev O P fuel xs ys = some true → xs.length = ys.length →
        ∀ f1 f2 vos vps, denArgs ι O f1 xs = some vos → denArgs ι P f2 ys = some vps → vos = vps) := by
  intro fuel
  have hV := cmpVar_sound O P ι hok hcomm fuel
  exact ⟨hV,
    fun xs ys h hl f1 f2 vos vps => denArgs_congr ι O P f1 f2 xs ys vos vps hl fun p hp => hV _ _ (cmpArgs_true O P fuel xs ys h p hp) f1 f2,
    fun xs ys h hl f1 f2 vos vps => denArgs_congr ι O P f1 f2 xs ys vos vps hl fun p hp => hV _ _ (cmpRev_true O P fuel xs ys h p hp) f1 f2⟩

theorem searchVal_spec (O P : CSpec) (ins : CInstr) (cands : List CInstr) (c : CInstr) :
    searchVal O P ins cands = some (some c) →
      c ∈ cands ∧ ins.op = c.op ∧ cmpArgs O P (fuelC O P) ins.inp c.inp = some true := by
  fun_induction searchVal O P ins cands with
  | case1 | case2 => nofun      -- no candidate left (`some none`); a comparison raises (`none`)
  | case3 d ds hop hcmp => exact fun h => by cases h; exact ⟨List.mem_cons_self, by simpa using hop, hcmp⟩      -- `d` is the record found
  | case4 d ds _ _ ih | case5 d ds _ ih => exact fun h => (ih h).imp_left (List.mem_cons_of_mem d)      -- `d` differs in operands or operation

/-- **the accepted matching is one-to-one**: there is a list of distinct-identifier records of the optimized
    specification, one per record of the original one and in its order, each with the same opcode and operands that
    compare equal -/
theorem matchAll_spec (O P : CSpec) : ∀ (os remaining : List CInstr), matchAll O P os remaining = some true →
    ∃ ms : List CInstr, ms.length = os.length ∧ (∀ m ∈ ms, m ∈ remaining) ∧ (ms.map (·.id)).Nodup ∧
      ∀ i (h1 : i < os.length) (h2 : i < ms.length),
        os[i].op = ms[i].op ∧ cmpArgs O P (fuelC O P) os[i].inp ms[i].inp = some true := by
  intro os remaining
  fun_induction matchAll O P os remaining with
  | case1 => exact fun _ => ⟨[], rfl, by simp, by simp, by intro i h1; simp at h1⟩      -- no record left to match
  | case2 | case3 => nofun                     -- the search raises; it finds nothing
  | case4 ins rest remaining c hs ih =>        -- `c` is found for `ins` and struck from `remaining`
    intro h
    obtain ⟨hc1, hc2, hc3⟩ := searchVal_spec O P ins remaining c hs
    obtain ⟨ms, hl, hmem, hnd, hall⟩ := ih h
    refine ⟨c :: ms, by simp [hl], ?_, ?_, ?_⟩
    · exact List.forall_mem_cons.mpr ⟨hc1, fun m hm => (List.mem_filter.mp (hmem m hm)).1⟩
    · -- the records found later passed the filter that removed `c`'s identifier
      refine List.nodup_cons.mpr ⟨fun hin => ?_, hnd⟩
      obtain ⟨m, hm, hid⟩ := List.mem_map.mp hin
      simpa [hid] using (List.mem_filter.mp (hmem m hm)).2
    · intro i h1 h2
      cases i with
      | zero => exact ⟨hc2, hc3⟩
      | succ i => simpa using hall i (by simpa using h1) (by simpa using h2)

end GasolVerif.Cmp
