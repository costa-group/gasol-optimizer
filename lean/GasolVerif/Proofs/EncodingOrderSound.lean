/-
  C06: the order part of the encoding.  Under the domain constraints and distinct theta values (`OrderHyp`) the
  decoded sequence performs every store once and respects every declared dependence, in the direct memory encoding
  (`store_*`, `load_store_order`) and in the `l_vars` one (`l_*`); `thetaInj_int` / `thetaInj_uf` discharge the
  distinctness of theta values.
-/
import GasolVerif.Proofs.EncodingSound
namespace GasolVerif.Enc
open GasolVerif.Formula

/-- position `j` holds the instruction with theta value `th` -/
def At (I : Inst) (v : Val) (j th : Nat) : Prop := T v j = thetaV I v th

@[simp] theorem evalB_tNe (I : Inst) (v : Val) (j th : Nat) : evalB v (tNe I j th) = true ↔ ¬ At I v j th := by
  simp [tNe, evalB_distinct, At, thetaV]

theorem evalB_isT' (I : Inst) (v : Val) (j th : Nat) : evalB v (isT I j th) = true ↔ At I v j th := by
  rw [evalB_isT, beq_iff_eq, At]

theorem find_theta (I : Inst) (hnd : (I.instrs.map (·.theta)).Nodup) (ins : Instr) (hm : ins ∈ I.instrs) :
    I.instrs.find? (·.theta == ins.theta) = some ins := by
  cases h : I.instrs.find? (·.theta == ins.theta) with
  | none => exact absurd (List.find?_eq_none.mp h ins hm) (by simp)
  | some a =>
    exact congrArg some (inj_on_of_nodup_map (·.theta) _ hnd a (List.mem_of_find?_eq_some h) ins hm
      (by simpa using List.find?_some h))

theorem lbOf_eq (I : Inst) (hnd : (I.instrs.map (·.theta)).Nodup) (ins : Instr) (hm : ins ∈ I.instrs) :
    lbOf I ins.theta = ins.lb ∧ ubOf I ins.theta = ins.ub := by
  simp [lbOf, ubOf, find_theta I hnd ins hm]

/-- what the order theorems assume of a valuation and an instance: the domain constraint at every position, theta values that
    identify instructions, and the two facts the executable premise `orderOk` checks -/
structure OrderHyp (I : Inst) (v : Val) : Prop where
  dom : ∀ j, j < I.b0 → evalB v (domainRaw I j) = true
  thetaInj : ∀ a ∈ I.instrs, ∀ b ∈ I.instrs, thetaV I v a.theta = thetaV I v b.theta → a.theta = b.theta
  nodup : (I.instrs.map (·.theta)).Nodup
  inside : ∀ ins ∈ I.instrs, ins.ub < I.b0

theorem at_bounds (I : Inst) (v : Val) (H : OrderHyp I v) (ins : Instr) (hm : ins ∈ I.instrs) (j : Nat) (hj : j < I.b0)
    (hat : At I v j ins.theta) : lbOf I ins.theta ≤ j ∧ j ≤ ubOf I ins.theta := by
  obtain ⟨ins', hm', hb, hT⟩ := domain_sound I v j (H.dom j hj)
  have hth : ins'.theta = ins.theta := H.thetaInj ins' hm' ins hm (hT.symm.trans hat)
  have e1 := lbOf_eq I H.nodup ins' hm'
  rw [hth] at e1
  rw [e1.1, e1.2]; exact hb

theorem ub_inside (I : Inst) (v : Val) (H : OrderHyp I v) (ins : Instr) (hm : ins ∈ I.instrs) :
    ubOf I ins.theta < I.b0 := (lbOf_eq I H.nodup ins hm).2 ▸ H.inside ins hm

theorem at_ne (I : Inst) (v : Val) (H : OrderHyp I v) (a b : Instr) (ha : a ∈ I.instrs) (hb : b ∈ I.instrs)
    (hne : a.theta ≠ b.theta) (i j : Nat) (hi : At I v i a.theta) (hj : At I v j b.theta) : i ≠ j := by
  rintro rfl
  exact hne (H.thetaInj a ha b hb (hi.symm.trans hj))

/-- the shape shared by `each_function_is_used_at_most_once`, `sto_ld_dependency` and `ld_sto_dependency`: with
    `th` at `j`, the instruction `th'` sits at no position of `R` -/
theorem excl_sound (I : Inst) (v : Val) (j th th' : Nat) (R : List Nat)
    (hc : evalB v (.conn .imp [isT I j th, .conn .and (R.map fun i => tNe I i th')]) = true) (hat : At I v j th) :
    ∀ i ∈ R, ¬ At I v i th' := by
  simpa [(evalB_isT' I v j th).mpr hat, evalAll_map] using hc

/-- the same when nothing is emitted for an empty `R` -/
theorem exclOpt_sound (I : Inst) (v : Val) (j th th' : Nat) (R : List Nat)
    (hc : ∀ f, (let ps := R.map fun i => tNe I i th'
      if ps.isEmpty then none else some (F.conn .imp [isT I j th, .conn .and ps])) = some f → evalB v f = true)
    (hat : At I v j th) : ∀ i ∈ R, ¬ At I v i th' := by
  cases R with
  | nil => exact fun _ h => nomatch h
  | cons a R => exact excl_sound I v j th th' (a :: R) (hc _ rfl) hat

theorem store_exactly_once (I : Inst) (v : Val) (H : OrderHyp I v) (ins : Instr) (hm : ins ∈ I.instrs)
    (hal : evalB v (atLeastOnce I ins.theta) = true)
    (ham : ∀ f ∈ atMostOnce I ins.theta, evalB v f = true) :
    ∃ p, p < I.b0 ∧ At I v p ins.theta ∧ ∀ j, j < I.b0 → At I v j ins.theta → j = p := by
  simp only [atLeastOnce, evalB_or, evalAny_map, mem_rangeL, evalB_isT'] at hal
  obtain ⟨p, ⟨hp1, hp2⟩, hT⟩ := hal
  refine ⟨p, Nat.lt_of_lt_of_le hp2 (ub_inside I v H ins hm), hT, fun j hj hat =>
    Classical.byContradiction fun hjp => ?_⟩
  obtain ⟨hj1, hj2⟩ := at_bounds I v H ins hm j hj hat
  have hgt : ubOf I ins.theta > lbOf I ins.theta := by omega
  refine excl_sound I v p ins.theta ins.theta ((rangeL (lbOf I ins.theta) (ubOf I ins.theta + 1)).filter (· ≠ p))
    (ham _ ?_) hT j ?_ hat
  · simp only [atMostOnce, hgt, if_true, List.mem_map, mem_rangeL]
    exact ⟨p, ⟨hp1, hp2⟩, rfl⟩
  · simp only [List.mem_filter, mem_rangeL, decide_eq_true_eq]
    exact ⟨⟨hj1, Nat.lt_succ_of_le hj2⟩, hjp⟩

theorem happensBefore_sound (I : Inst) (v : Val) (j th1 th2 : Nat) (hc : evalB v (happensBefore I j th1 th2) = true)
    (hat : At I v j th2) : ∃ i, lbOf I th1 ≤ i ∧ i < j ∧ At I v i th1 := by
  unfold happensBefore at hc
  simp only at hc
  split at hc
  · exact absurd hat ((evalB_tNe I v j th2).mp hc)
  · simpa [(evalB_isT' I v j th2).mpr hat, evalAny_map, mem_rangeL, At, and_assoc] using hc

set_option linter.unusedVariables false in      -- `h1` is not needed
theorem store_store_order (I : Inst) (v : Val) (H : OrderHyp I v) (i1 i2 : Instr) (h1 : i1 ∈ I.instrs) (h2 : i2 ∈ I.instrs)
    (hc : ∀ f ∈ (rangeL (lbOf I i2.theta) (ubOf I i2.theta + 1)).map (fun j => happensBefore I j i1.theta i2.theta),
      evalB v f = true)
    (p2 : Nat) (hp2 : p2 < I.b0) (hat2 : At I v p2 i2.theta) :
    ∃ p1, p1 < p2 ∧ At I v p1 i1.theta := by
  obtain ⟨hl, hu⟩ := at_bounds I v H i2 h2 p2 hp2 hat2
  obtain ⟨p1, _, h⟩ := happensBefore_sound I v p2 i1.theta i2.theta
    (hc _ (List.mem_map_of_mem ((mem_rangeL _ _ _).mpr ⟨hl, Nat.lt_succ_of_le hu⟩))) hat2
  exact ⟨p1, h⟩

theorem store_load_order (I : Inst) (v : Val) (H : OrderHyp I v) (st ld : Instr) (hs : st ∈ I.instrs) (hl : ld ∈ I.instrs)
    (hne : st.theta ≠ ld.theta)
    (hc : ∀ f ∈ (rangeL (max 1 (max (lbOf I ld.theta + 1) (lbOf I st.theta))) (ubOf I st.theta + 1)).filterMap
      (fun j => stoLd I j st.theta ld.theta), evalB v f = true)
    (ps : Nat) (hps : ps < I.b0) (hats : At I v ps st.theta) (i : Nat) (hi : i < I.b0) (hati : At I v i ld.theta) :
    ps < i := by
  refine Nat.lt_of_le_of_ne (Nat.le_of_not_lt fun h => ?_) (at_ne I v H st ld hs hl hne ps i hats hati)
  obtain ⟨sl, su⟩ := at_bounds I v H st hs ps hps hats
  obtain ⟨ll, lu⟩ := at_bounds I v H ld hl i hi hati
  exact exclOpt_sound I v ps st.theta ld.theta _
    (fun f hf => hc f (List.mem_filterMap.mpr ⟨ps, (mem_rangeL _ _ _).mpr ⟨by omega, Nat.lt_succ_of_le su⟩, hf⟩))
    hats i ((mem_rangeL _ _ _).mpr ⟨ll, h⟩) hati

theorem load_store_order (I : Inst) (v : Val) (H : OrderHyp I v) (ld st : Instr) (hl : ld ∈ I.instrs) (hs : st ∈ I.instrs)
    (hne : st.theta ≠ ld.theta)
    (hc : ∀ f ∈ (rangeL (lbOf I st.theta) (min (I.b0 - 1) (min (ubOf I ld.theta) (ubOf I st.theta + 1)))).filterMap
      (fun j => ldSto I j ld.theta st.theta), evalB v f = true)
    (ps : Nat) (hps : ps < I.b0) (hats : At I v ps st.theta) (i : Nat) (hi : i < I.b0) (hati : At I v i ld.theta) :
    i < ps := by
  refine Nat.lt_of_le_of_ne (Nat.le_of_not_lt fun h => ?_) (at_ne I v H ld st hl hs (Ne.symm hne) i ps hati hats)
  obtain ⟨sl, su⟩ := at_bounds I v H st hs ps hps hats
  obtain ⟨ll, lu⟩ := at_bounds I v H ld hl i hi hati
  exact exclOpt_sound I v ps st.theta ld.theta _
    (fun f hf => hc f (List.mem_filterMap.mpr ⟨ps, (mem_rangeL _ _ _).mpr ⟨sl, by omega⟩, hf⟩)) hats i
    ((mem_rangeL _ _ _).mpr ⟨h, Nat.lt_succ_of_le lu⟩) hati

theorem thetaInj_int (I : Inst) (v : Val) (h : I.thetaUF = false) :
    ∀ a ∈ I.instrs, ∀ b ∈ I.instrs, thetaV I v a.theta = thetaV I v b.theta → a.theta = b.theta := by
  intro a _ b _ hab
  simp only [thetaV, thetaF, h, Bool.false_eq_true, if_false, evalI] at hab
  exact Int.ofNat.inj hab

theorem thetaInj_uf (I : Inst) (v : Val) (hok : thetasOk I = true) (hd : evalB v (thetaDistinctRaw I) = true) :
    ∀ a ∈ I.instrs, ∀ b ∈ I.instrs, thetaV I v a.theta = thetaV I v b.theta → a.theta = b.theta := by
  simp only [thetasOk, Bool.and_eq_true, decide_eq_true_eq, List.all_eq_true] at hok
  have hnd : ((List.range I.instrs.length).map fun k => evalI v (thetaF I k)).Nodup := by
    simpa [thetaDistinctRaw, evalB_distinct, Function.comp_def] using hd
  intro a ha b hb hab
  exact inj_on_of_nodup_map (fun k => evalI v (thetaF I k)) (List.range I.instrs.length) hnd a.theta
    (List.mem_range.mpr (hok.2 a ha)) b.theta (List.mem_range.mpr (hok.2 b hb)) hab

theorem evalI_lA (v : Val) (th : Nat) : evalI v (lA th) = L v th := by simp [lA, L, evalI, evalIs]

theorem evalB_lIs (v : Val) (th j : Nat) : evalB v (.conn .eq [lA th, .num (j : Int)]) = true ↔ L v th = j := by
  rw [evalB_eq_int v _ rfl, evalI_lA, evalI_num, beq_iff_eq]

theorem evalB_lEquiv (I : Inst) (v : Val) (j th : Nat) :
    evalB v (lEquiv I j th) = true ↔ (At I v j th ↔ L v th = j) := by
  rw [lEquiv, evalB_eq_bool v _ rfl, beq_iff_eq, Bool.eq_iff_iff, evalB_isT', evalB_lIs]

theorem l_exactly_once (I : Inst) (v : Val) (H : OrderHyp I v) (ins : Instr) (hm : ins ∈ I.instrs)
    (hd : evalB v (lDomain I ins.theta) = true)
    (he : ∀ j, lbOf I ins.theta ≤ j → j ≤ ubOf I ins.theta → evalB v (lEquiv I j ins.theta) = true) :
    ∃ p : Nat, p < I.b0 ∧ L v ins.theta = p ∧ At I v p ins.theta ∧ ∀ j, j < I.b0 → At I v j ins.theta → j = p := by
  simp only [lDomain, evalB_or, evalAny_map, mem_rangeL, evalB_lIs] at hd
  obtain ⟨p, ⟨hp1, hp2⟩, hLp⟩ := hd
  refine ⟨p, Nat.lt_of_lt_of_le hp2 (ub_inside I v H ins hm), hLp,
    ((evalB_lEquiv I v p ins.theta).mp (he p hp1 (Nat.le_of_lt_succ hp2))).mpr hLp, fun j hj hat => ?_⟩
  obtain ⟨hj1, hj2⟩ := at_bounds I v H ins hm j hj hat
  have := ((evalB_lEquiv I v j ins.theta).mp (he j hj1 hj2)).mp hat
  rw [hLp] at this
  exact (Int.ofNat.inj this).symm

set_option linter.unusedVariables false in      -- `I` is not needed
theorem l_order (I : Inst) (v : Val) (th1 th2 : Nat) (p1 p2 : Nat) (h1 : L v th1 = p1) (h2 : L v th2 = p2)
    (ho : evalB v (lOrder th1 th2) = true) : p1 < p2 := by
  simp only [lOrder, evalB_lt, evalI_lA, decide_eq_true_eq, h1, h2] at ho
  exact Int.ofNat_lt.mp ho

end GasolVerif.Enc
