/-
  C06 assembled: `encoding_sound_direct` (core + order, canonical decoding through `decodeAt`) and `core_realizesE`
  (the `-empty` encoding as the property reads).
-/
import GasolVerif.Proofs.EncodingSoftSound
import GasolVerif.Proofs.EncodingEmptySound
namespace GasolVerif.Enc
open GasolVerif.Formula

def instrOf (I : Inst) (th : Nat) : Option Instr := I.instrs.find? (·.theta == th)

/-- the steps a decoding stands for; the default `nop` is never taken under `Decoded`, where every `dec j` is the theta of an
    instruction of the instance -/
def stepsOf (I : Inst) (v : Val) (dec : Nat → Nat) : List (Kind × Int) :=
  (rangeL 0 I.b0).map fun j => (((instrOf I (dec j)).map (·.kind)).getD .nop, A v j)

theorem steps_eq_stepsOf (I : Inst) (v : Val) (H : OrderHyp I v) (steps : List (Kind × Int)) (hlen : steps.length = I.b0)
    (hdec : Decodes I v steps) : steps = stepsOf I v (decodeAt I v) := by
  have D := decoded_decodeAt I v H
  apply List.ext_getElem (by simp [stepsOf, hlen, rangeL_zero])
  intro j h1 h2
  have hj : j < I.b0 := by omega
  obtain ⟨ins, hm, hk, hat, ha⟩ := hdec j h1
  simp only [stepsOf, rangeL_zero, List.getElem_map, List.getElem_range, instrOf, (D.at_iff H ins hm j hj).mp hat,
    find_theta I H.nodup ins hm, Option.map_some, Option.getD_some]
  rw [hk, ← ha]

/-- **C06 assembled (boolean `u` encoding, direct memory encoding)**: a valuation that satisfies the emitted core,
    injectivity and order constraints of an instance whose executable premises hold decodes — position by position,
    through the theta value of `t_j` — to `b0` instructions whose symbolic execution from the initial stack applies
    every operation to exactly the operands the specification names, never leaves the stack bound and ends with
    exactly the target stack; every store is performed exactly once and store-before-store dependences are
    respected (`store_load_order` / `load_store_order` give the other two kinds in the same way). -/
theorem encoding_sound_direct (I : Inst) (v : Val) (raws built : List F) (hraw : coreRaw I = some raws)
    (hb : coreBuilt I = some built) (hws : raws.all F.ws = true) (hsat : ∀ f ∈ built, evalB v f = true)
    (hok : instOk I = true) (hord : orderOk I = true)
    (inj : ∀ x y, Dom I x → Dom I y → valOf I v x = valOf I v y → x = y)
    (thetaInj : ∀ a ∈ I.instrs, ∀ b ∈ I.instrs, thetaV I v a.theta = thetaV I v b.theta → a.theta = b.theta) :
    let dec := decodeAt I v
    runSym I (stepsOf I v dec) I.src = some I.tgt ∧ Decoded I v dec ∧
    (∀ ins ∈ I.instrs, evalB v (atLeastOnce I ins.theta) = true → (∀ f ∈ atMostOnce I ins.theta, evalB v f = true) →
      ∃ p, p < I.b0 ∧ dec p = ins.theta ∧ ∀ j, j < I.b0 → dec j = ins.theta → j = p) := by
  intro dec
  have hrawsat := raw_sat_of_built v raws built (by rw [coreBuilt, hraw] at hb; exact hb) hws hsat
  simp only [orderOk, Bool.and_eq_true, decide_eq_true_eq, List.all_eq_true] at hord
  have H : OrderHyp I v := ⟨fun j hj => hrawsat _ (domain_mem_coreWith I _ _ raws hraw j hj), thetaInj, hord.1, hord.2⟩
  obtain ⟨steps, hlen, hdec, hrun⟩ := core_realizes I v raws built hraw hb hws hsat hok inj
  have D := decoded_decodeAt I v H
  refine ⟨steps_eq_stepsOf I v H steps hlen hdec ▸ hrun, D, fun ins hm hal ham => ?_⟩
  obtain ⟨p, hp, hat, huniq⟩ := store_exactly_once I v H ins hm hal ham
  exact ⟨p, hp, (D.at_iff H ins hm p hp).mp hat, fun j hj hd => huniq j hj ((D.at_iff H ins hm j hj).mpr hd)⟩

/-- **C06, `-empty` encoding, as the property reads**: as `core_realizes`, for the constraints of
    `Models/EncodingEmpty.lean`; the `empty` value being none of the stack variables' values is `notEmpty_of_nodup`. -/
theorem core_realizesE (I : Inst) (v : Val) (e : F) (he : emptyF I = some e) (hne : NotEmpty I v e)
    (raws built : List F) (hraw : coreRawE I = some raws) (hb : buildAll raws = some built) (hws : raws.all F.ws = true)
    (hsat : ∀ f ∈ built, evalB v f = true) (hok : instOk I = true)
    (inj : ∀ x y, Dom I x → Dom I y → valOf I v x = valOf I v y → x = y) :
    ∃ steps : List (Kind × Int), steps.length = I.b0 ∧ Decodes I v steps ∧ runSym I steps I.src = some I.tgt := by
  obtain ⟨steps, hlen, hdec, hrun⟩ :=
    core_soundE I v e he hne raws hraw (raw_sat_of_built v raws built hb hws hsat) hok
  exact ⟨steps, hlen, hdec, runSym_of_decodes I v steps hdec hrun inj⟩

end GasolVerif.Enc
