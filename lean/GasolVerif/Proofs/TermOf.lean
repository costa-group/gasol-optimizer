/-
  C02: `termOfVar` / `termsOf` as an inductively defined relation: the ways a variable (bound in the environment, initial stack
  word, result of a pure instruction) and a list of atoms get their terms as introduction rules, with one rule induction over the
  fuel-indexed functions (`termOf_induct`).  Fuel monotonicity and the comparison with a smaller specification are one instance
  (`termOf_sub`).  Then `runSchedule` and `evalSpec` by their successful runs.
-/
import GasolVerif.Models.Spec
namespace GasolVerif.Spec

variable {S : Spec} {env : Env} {f : Nat}

theorem termOfVar_bound {v : String} {t : Tm} (h : env.lookup v = some t) : termOfVar S env (f + 1) v = some t := by
  simp only [termOfVar, h]

theorem termOfVar_src {v : String} {i : Nat} (h : env.lookup v = none) (hs : S.src.idxOf? v = some i) :
    termOfVar S env (f + 1) v = some (.var i) := by
  simp only [termOfVar, h, hs]

theorem termOfVar_pure {v : String} {u : UInstr} {ts : List Tm} {t : Tm} (h : env.lookup v = none) (hs : S.src.idxOf? v = none)
    (hp : S.producer? v = some u) (he : u.isEffect = false) (hts : termsOf S env f u.inp = some ts) (ht : pureTm u ts = some t) :
    termOfVar S env (f + 1) v = some t := by
  simp only [termOfVar, h, hs, hp, he, hts, Bool.false_eq_true, if_false, Option.bind_some, ht]

theorem termsOf_const {n : Nat} {as : List Atom} {ts : List Tm} (has : termsOf S env f as = some ts) :
    termsOf S env f (.const n :: as) = some (.const (BitVec.ofNat 256 n) :: ts) := by
  simp only [termsOf, termOfAtom, has]

theorem termsOf_var {v : String} {as : List Atom} {t : Tm} {ts : List Tm} (hv : termOfVar S env f v = some t)
    (has : termsOf S env f as = some ts) : termsOf S env f (.var v :: as) = some (t :: ts) := by
  simp only [termsOf, termOfAtom, hv, has]

theorem termsOf_iff (S : Spec) (env : Env) (fuel : Nat) :
    ∀ (as : List Atom) (ts : List Tm),
      termsOf S env fuel as = some ts ↔ as.map (termOfAtom S env fuel) = ts.map some
  | [], ts => by cases ts <;> simp [termsOf]
  | a :: as, [] => by simp only [termsOf]; split <;> simp
  | a :: as, t :: ts => by
    simp only [termsOf, List.map_cons, List.cons.injEq, ← termsOf_iff S env fuel as ts]
    cases termOfAtom S env fuel a <;> cases termsOf S env fuel as <;> simp

/-- rule induction: `PV` holds of every (fuel, variable, term) and `PL` of every (fuel, atoms, terms) the functions relate, if they
    are closed under the rules by which the functions find a term -/
theorem termOf_induct (S : Spec) (env : Env) {PV : Nat → String → Tm → Prop} {PL : Nat → List Atom → List Tm → Prop}
    (bound : ∀ f v t, env.lookup v = some t → PV (f + 1) v t)
    (src : ∀ f v i, env.lookup v = none → S.src.idxOf? v = some i → PV (f + 1) v (.var i))
    (pure : ∀ f v u ts t, env.lookup v = none → S.src.idxOf? v = none → S.producer? v = some u → u.isEffect = false →
      termsOf S env f u.inp = some ts → PL f u.inp ts → pureTm u ts = some t → PV (f + 1) v t)
    (nil : ∀ f, PL f [] [])
    (const : ∀ f n as ts, termsOf S env f as = some ts → PL f as ts →
      PL f (.const n :: as) (.const (BitVec.ofNat 256 n) :: ts))
    (var : ∀ f v as t ts, termOfVar S env f v = some t → PV f v t → termsOf S env f as = some ts → PL f as ts →
      PL f (.var v :: as) (t :: ts)) (f : Nat) :
    (∀ v t, termOfVar S env f v = some t → PV f v t) ∧ (∀ as ts, termsOf S env f as = some ts → PL f as ts) := by
  -- the list rules, given the variable rule at the same fuel
  have list : ∀ f, (∀ v t, termOfVar S env f v = some t → PV f v t) → ∀ as ts, termsOf S env f as = some ts → PL f as ts := by
    intro f hV as
    induction as with
    | nil => intro ts h; cases (by simpa [termsOf] using h : [] = ts); exact nil f
    | cons a as ih =>
      intro ts h
      simp only [termsOf] at h
      split at h
      · rename_i t rs ha hr
        cases h
        cases a with
        | const n => cases (by simpa [termOfAtom] using ha : Tm.const (BitVec.ofNat 256 n) = t); exact const f n as rs hr (ih rs hr)
        | var v => rw [termOfAtom] at ha; exact var f v as t rs ha (hV v t ha) hr (ih rs hr)
      · cases h
  have hV : ∀ v t, termOfVar S env f v = some t → PV f v t := by
    induction f with
    | zero => intro v t h; simp [termOfVar] at h
    | succ f ih =>
      intro v t h
      -- by the clauses of `termOfVar`, in their order
      cases hl : env.lookup v with
      | some t' => cases (termOfVar_bound hl).symm.trans h; exact bound f v t hl
      | none =>
      cases hs : S.src.idxOf? v with
      | some i => cases (termOfVar_src hl hs).symm.trans h; exact src f v i hl hs
      | none =>
      cases hp : S.producer? v with
      | none => simp [termOfVar, hl, hs, hp] at h
      | some u =>
      cases he : u.isEffect with
      | true => simp [termOfVar, hl, hs, hp, he] at h
      | false =>
        simp only [termOfVar, hl, hs, hp, he, Bool.false_eq_true, if_false] at h
        obtain ⟨ts, hts, ht⟩ := Option.bind_eq_some_iff.1 h
        exact pure f v u ts t hl hs hp he hts (list f ih u.inp ts hts) ht
  exact ⟨hV, list f hV⟩

/-- a smaller specification, less fuel: a term found in `S'` under `env'` with fuel `f` is found, the same, in `S` under `env`
    with any fuel `f + k`, if the two specifications and environments agree on a set `P` of variables closed under "operand of the
    pure instruction producing" -/
theorem termOf_sub {S S' : Spec} {env env' : Env} {P : String → Prop} (hsrc : S'.src = S.src)
    (henv : ∀ v, P v → env'.lookup v = env.lookup v) (hprod : ∀ v, P v → S'.producer? v = S.producer? v)
    (hinp : ∀ v u, P v → S.producer? v = some u → u.isEffect = false → ∀ w, .var w ∈ u.inp → P w) (f : Nat) :
    (∀ v t, termOfVar S' env' f v = some t → P v → ∀ k, termOfVar S env (f + k) v = some t) ∧
    (∀ as ts, termsOf S' env' f as = some ts → (∀ w, .var w ∈ as → P w) → ∀ k, termsOf S env (f + k) as = some ts) := by
  apply termOf_induct S' env'
  case bound =>
    intro f v t hl hP k
    rw [Nat.add_right_comm]; exact termOfVar_bound (henv v hP ▸ hl)
  case src =>
    intro f v i hl hs hP k
    rw [Nat.add_right_comm]; exact termOfVar_src (henv v hP ▸ hl) (hsrc ▸ hs)
  case pure =>
    intro f v u ts t hl hs hp he _ ih ht hP k
    have hp' := hprod v hP ▸ hp
    rw [Nat.add_right_comm]
    exact termOfVar_pure (henv v hP ▸ hl) (hsrc ▸ hs) hp' he (ih (hinp v u hP hp' he) k) ht
  case nil => intro f _ k; simp only [termsOf]
  case const =>
    intro f n as ts _ ih hP k
    exact termsOf_const (ih (fun w hw => hP w (List.mem_cons_of_mem _ hw)) k)
  case var =>
    intro f v as t ts _ ihv _ ih hP k
    exact termsOf_var (ihv (hP v (List.mem_cons_self ..)) k) (ih (fun w hw => hP w (List.mem_cons_of_mem _ hw)) k)

theorem termOf_mono_le (S : Spec) (env : Env) (f g : Nat) (h : f ≤ g) :
    (∀ v t, termOfVar S env f v = some t → termOfVar S env g v = some t) ∧
    (∀ as ts, termsOf S env f as = some ts → termsOf S env g as = some ts) := by
  obtain ⟨k, rfl⟩ := Nat.exists_eq_add_of_le h
  have := termOf_sub (S := S) (env := env) (P := fun _ => True) rfl (fun _ _ => rfl) (fun _ _ => rfl) (fun _ _ _ _ _ _ _ => trivial) f
  exact ⟨fun v t hv => this.1 v t hv trivial k, fun as ts hs => this.2 as ts hs (fun _ _ => trivial) k⟩

theorem termOf_mono (S : Spec) (env : Env) : ∀ fuel : Nat,
    (∀ v t, termOfVar S env fuel v = some t → termOfVar S env (fuel + 1) v = some t) ∧
    (∀ as ts, termsOf S env fuel as = some ts → termsOf S env (fuel + 1) as = some ts) :=
  fun fuel => termOf_mono_le S env fuel (fuel + 1) (Nat.le_succ fuel)

theorem runSchedule_cons_some {S : Spec} {id : String} {ids : List String} {st st' : EvalSt} :
    runSchedule S (id :: ids) st = some st' ↔
      ∃ u st1, S.find? id = some u ∧ stepEffect S st u = some st1 ∧ runSchedule S ids st1 = some st' := by
  simp only [runSchedule]
  cases S.find? id <;> simp [Option.bind_eq_some_iff]

theorem evalSpec_some {S : Spec} {L : List String} {X : SymSt} :
    evalSpec S L = some X ↔ ∃ st stk, runSchedule S L {} = some st ∧ termsOf S st.env (fuelOf S) S.tgt = some stk ∧
      X = { stk := stk, base := S.src.length, mem := st.mem, sto := st.sto } := by
  simp only [evalSpec, Option.bind_eq_bind, Option.bind_eq_some_iff, Option.some.injEq, exists_and_left, eq_comm (a := X)]

end GasolVerif.Spec
