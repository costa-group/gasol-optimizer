/-
  C06: the stack a valuation describes and what a transition constraint says about it, for an arbitrary
  occupancy predicate `P i j` ("cell `i` is in use at position `j`").  The boolean encoding marks cells with `u`
  flags, the `-empty` encoding by a value other than `empty`; both read their constraints as `Reads`;
  `reads_sound` is one step of the abstract stack machine, `run_of_reads` all positions.
-/
import GasolVerif.Models.Encoding
namespace GasolVerif.Enc
open GasolVerif.Formula

/-- the cells `0 … h-1` at position `j` are the occupied ones (`P i j`) -/
def HeightP (bs : Nat) (P : Nat → Nat → Bool) (j h : Nat) : Prop :=
  h ≤ bs ∧ ∀ i, i < bs → (P i j = true ↔ i < h)

theorem heightP_lt {bs : Nat} {P : Nat → Nat → Bool} {j h : Nat} (hh : HeightP bs P j h) (i : Nat) (hi : i < bs)
    (hu : P i j = true) : i < h := (hh.2 i hi).mp hu

theorem heightP_not {bs : Nat} {P : Nat → Nat → Bool} {j h : Nat} (hh : HeightP bs P j h) (i : Nat) (hi : i < bs)
    (hu : P i j = false) : h ≤ i :=
  Nat.le_of_not_lt fun hl => by rw [(hh.2 i hi).mpr hl] at hu; cases hu

theorem heightP_unique {bs : Nat} {P : Nat → Nat → Bool} {j h h' : Nat} (a : HeightP bs P j h) (b : HeightP bs P j h') :
    h = h' :=
  have le : ∀ {h h'}, HeightP bs P j h → HeightP bs P j h' → h ≤ h' := fun a b => Nat.le_of_not_lt fun hl =>
    have hb := Nat.lt_of_lt_of_le hl a.1
    Nat.lt_irrefl _ ((b.2 _ hb).mp ((a.2 _ hb).mpr hl))
  Nat.le_antisymm (le a b) (le b a)

@[simp] theorem stk_length (v : Val) (j h : Nat) : (stk v j h).length = h := by simp [stk]

theorem stk_getElem (v : Val) (j h i : Nat) (hi : i < h) : (stk v j h)[i]'(by simpa using hi) = X v i j := by
  simp [stk]

theorem stk_getElem? (v : Val) (j h i : Nat) (hi : i < h) : (stk v j h)[i]? = some (X v i j) := by
  simp [stk, hi]

theorem list_ext_get (l₁ l₂ : List Int) (hl : l₁.length = l₂.length)
    (h : ∀ i (h1 : i < l₁.length) (h2 : i < l₂.length), l₁[i] = l₂[i]) : l₁ = l₂ :=
  List.ext_getElem hl h

theorem stk_eq_of_get (v : Val) (j : Nat) (l : List Int) (h : ∀ i (hi : i < l.length), X v i j = l[i]) :
    stk v j l.length = l :=
  List.ext_getElem (by simp) fun i h1 _ => by rw [stk_getElem v j _ i (by simpa using h1)]; exact h i _

theorem stk_take (v : Val) (j : Nat) {n h : Nat} (hn : n ≤ h) : (stk v j h).take n = stk v j n := by
  simp [stk, ← List.map_take, List.take_range, Nat.min_eq_left hn]

theorem stk_split (v : Val) (j : Nat) {n h : Nat} (hn : n ≤ h) : stk v j h = stk v j n ++ (stk v j h).drop n := by
  rw [← stk_take v j hn, List.take_append_drop]

theorem stk_cons1 (v : Val) (j h : Nat) (h1 : 1 ≤ h) : stk v j h = X v 0 j :: (stk v j h).drop 1 :=
  stk_split v j h1

theorem stk_cons2 (v : Val) (j h : Nat) (h2 : 2 ≤ h) : stk v j h = X v 0 j :: X v 1 j :: (stk v j h).drop 2 :=
  stk_split v j h2

/-- consume `n` cells, produce `m` -/
theorem shiftP (bs : Nat) (P : Nat → Nat → Bool) (v : Val) (j h n m : Nat) (hh : HeightP bs P j h) (hn : n ≤ h)
    (hroom : h - n + m ≤ bs) (htop : ∀ i, i < m → P i (j + 1) = true)
    (hmv : ∀ i, n ≤ i → i < bs → i + m - n < bs →
      P (i + m - n) (j + 1) = P i j ∧ X v (i + m - n) (j + 1) = X v i j)
    (hfree : ∀ i, bs - n + m ≤ i → i < bs → P i (j + 1) = false) :
    HeightP bs P (j + 1) (h - n + m) ∧ (stk v (j + 1) (h - n + m)).drop m = (stk v j h).drop n := by
  -- with `h = r + n` and the moved cells counted from `n`, no step subtracts
  obtain ⟨r, rfl⟩ := Nat.exists_eq_add_of_le' hn
  rw [Nat.add_sub_cancel] at hroom ⊢
  have hmv' : ∀ i, i + n < bs → i + m < bs →
      P (i + m) (j + 1) = P (i + n) j ∧ X v (i + m) (j + 1) = X v (i + n) j := fun i h1 h2 => by
    have e : i + n + m - n = i + m := by rw [Nat.add_right_comm, Nat.add_sub_cancel]
    have := hmv (i + n) (Nat.le_add_left _ _) h1 (e ▸ h2)
    rwa [e] at this
  have hle := hh.1
  refine ⟨⟨hroom, fun i hi => ?_⟩, List.ext_getElem (by simp) fun i h1 _ => ?_⟩
  · by_cases hm : i < m
    · simp [htop i hm]; omega
    · obtain ⟨i, rfl⟩ := Nat.exists_eq_add_of_le' (Nat.le_of_not_lt hm)
      by_cases hl : i + n < bs
      · rw [(hmv' i hl hi).1, hh.2 _ hl]; omega
      · rw [hfree _ (by omega) hi]; simp; omega
  · simp only [List.length_drop, stk_length, Nat.add_sub_cancel] at h1
    simp only [List.getElem_drop]
    rw [stk_getElem _ _ _ _ (by omega), stk_getElem _ _ _ _ (by omega), Nat.add_comm m, Nat.add_comm n]
    exact (hmv' i (by omega) (by omega)).2

/-- consume `n` cells, produce one -/
theorem consume_produceP (bs : Nat) (P : Nat → Nat → Bool) (v : Val) (j h n : Nat) (hh : HeightP bs P j h) (hbs : 1 ≤ bs)
    (hn : n ≤ h) (hroom : n = 0 → P (bs - 1) j = false)
    (htop : P 0 (j + 1) = true)
    (hmv : ∀ i, n ≤ i → i < bs → i + 1 - n < bs →
      P (i + 1 - n) (j + 1) = P i j ∧ X v (i + 1 - n) (j + 1) = X v i j)
    (hfree : ∀ i, bs - n + 1 ≤ i → i < bs → P i (j + 1) = false) :
    HeightP bs P (j + 1) (h - n + 1) ∧ stk v (j + 1) (h - n + 1) = X v 0 (j + 1) :: (stk v j h).drop n := by
  have hroom' : h - n + 1 ≤ bs := by
    have hle := hh.1
    by_cases h0 : n = 0
    · have := heightP_not hh (bs - 1) (by omega) (hroom h0); omega
    · omega
  obtain ⟨hh', hs'⟩ := shiftP bs P v j h n 1 hh hn hroom' (fun i hi => Nat.lt_one_iff.mp hi ▸ htop) hmv hfree
  exact ⟨hh', by rw [stk_split v (j + 1) (Nat.le_add_left 1 (h - n)), hs']; rfl⟩

/-- consume `n ≥ 1` cells, produce none -/
theorem consumeP (bs : Nat) (P : Nat → Nat → Bool) (v : Val) (j h n : Nat) (hh : HeightP bs P j h) (hn1 : 1 ≤ n)
    (hn : n ≤ h)
    (hmv : ∀ i, n ≤ i → i < bs → P (i - n) (j + 1) = P i j ∧ X v (i - n) (j + 1) = X v i j)
    (hfree : ∀ i, bs - n ≤ i → i < bs → P i (j + 1) = false) :
    HeightP bs P (j + 1) (h - n) ∧ stk v (j + 1) (h - n) = (stk v j h).drop n :=
  shiftP bs P v j h n 0 hh hn (by have := hh.1; omega) (fun i hi => absurd hi (Nat.not_lt_zero _))
    (fun i h1 h2 _ => hmv i h1 h2) hfree

/-- what `move(sf, j, al, be, d)` says: the cells `al … be` at position `j` keep occupancy and value, `d` cells further
    down, at position `j + 1`.  `be` is an integer because the encoder computes range ends in Python integers
    (`bs - 2` is `-1`, an empty range, when `bs = 1`). -/
def Moves (P : Nat → Nat → Bool) (v : Val) (j al : Nat) (be d : Int) : Prop :=
  ∀ i : Nat, al ≤ i → (i : Int) ≤ be → P (shift i d) (j + 1) = P i j ∧ X v (shift i d) (j + 1) = X v i j

theorem moves_of_gt {P : Nat → Nat → Bool} {v : Val} {j al : Nat} {be d : Int} (h : (al : Int) > be) :
    Moves P v j al be d := fun i h1 h2 => by omega

theorem moves_toNat {P : Nat → Nat → Bool} {v : Val} {j al : Nat} {be d : Int} (h : ¬ (al : Int) > be) :
    Moves P v j al (be.toNat : Nat) d ↔ Moves P v j al be d :=
  ⟨fun hh i h1 h2 => hh i h1 (by omega), fun hh i h1 h2 => hh i h1 (by omega)⟩

theorem shift_pos (i : Nat) : shift i 1 = i + 1 := rfl
theorem shift_neg (i n : Nat) : shift i (-(n : Int)) = i - n := Int.toNat_sub i n
theorem shift_one_sub (i n : Nat) : shift i (1 - (n : Int)) = i + 1 - n := by
  rw [shift, ← Int.add_sub_assoc]; exact Int.toNat_sub (i + 1) n

def FreeFrom (bs : Nat) (P : Nat → Nat → Bool) (j a : Nat) : Prop := ∀ i, a ≤ i → i < bs → P i j = false

def Holds (P : Nat → Nat → Bool) (v : Val) (j : Nat) (l : List Int) : Prop :=
  ∀ i (hi : i < l.length), P i j = true ∧ X v i j = l[i]

theorem holds_nil {P : Nat → Nat → Bool} {v : Val} {j : Nat} : Holds P v j [] :=
  fun _ hi => absurd hi (Nat.not_lt_zero _)

theorem holds_one {P : Nat → Nat → Bool} {v : Val} {j : Nat} {a : Int} (h0 : P 0 j = true) (hx : X v 0 j = a) :
    Holds P v j [a] := fun i hi => by
  match i, hi with
  | 0, _ => exact ⟨h0, hx⟩

theorem holds_two {P : Nat → Nat → Bool} {v : Val} {j : Nat} {a b : Int} (h0 : P 0 j = true) (h1 : P 1 j = true)
    (hx : X v 0 j = a ∧ X v 1 j = b) : Holds P v j [a, b] := fun i hi => by
  match i, hi with
  | 0, _ => exact ⟨h0, hx.1⟩
  | 1, _ => exact ⟨h1, hx.2⟩

theorem Holds.le_height {bs : Nat} {P : Nat → Nat → Bool} {v : Val} {j h : Nat} {l : List Int} (hl : Holds P v j l)
    (hh : HeightP bs P j h) (hb : l.length ≤ bs) : l.length ≤ h :=
  Nat.le_of_not_lt fun hlt => Nat.lt_irrefl h (heightP_lt hh h (Nat.lt_of_lt_of_le hlt hb) (hl h hlt).1)

theorem Holds.split {bs : Nat} {P : Nat → Nat → Bool} {v : Val} {j h : Nat} {l : List Int} (hl : Holds P v j l)
    (hh : HeightP bs P j h) (hb : l.length ≤ bs) : stk v j h = l ++ (stk v j h).drop l.length := by
  have := (List.take_append_drop l.length (stk v j h)).symm
  rwa [stk_take v j (hl.le_height hh hb), stk_eq_of_get v j l fun i hi => (hl i hi).2] at this

theorem Moves.consume {bs : Nat} {P : Nat → Nat → Bool} {v : Val} {j h : Nat} {ops : List Int}
    (hops : Holds P v j ops) (hmv : Moves P v j ops.length (bs - 1 : Nat) (-(ops.length : Int)))
    (hh : HeightP bs P j h) (hb : ops.length ≤ bs) (hfree : FreeFrom bs P (j + 1) (bs - ops.length)) :
    ∃ h', HeightP bs P (j + 1) h' ∧ stk v j h = ops ++ stk v (j + 1) h' := by
  obtain ⟨hh', hs'⟩ := shiftP bs P v j h ops.length 0 hh (hops.le_height hh hb) (by have := hh.1; omega)
    (fun i hi => absurd hi (Nat.not_lt_zero _))
    (fun i h1 h2 _ => shift_neg i _ ▸ hmv i h1 (Int.ofNat_le.mpr (Nat.le_sub_one_of_lt h2))) hfree
  exact ⟨_, hh', (hops.split hh hb).trans (congrArg _ hs'.symm)⟩

/-- the range end `min (bs - 2 + n) (bs - 1)` is the one of `non_comm_function_encoding`; it is `bs - 2` for a push
    (`n = 0`) and `bs - 1` for a commutative operation (`n = 2`) -/
theorem Moves.produce {bs : Nat} {P : Nat → Nat → Bool} {v : Val} {j h n : Nat} {ops : List Int} {be : Int}
    (hmv : Moves P v j n be (1 - (n : Int))) (hbe : min ((bs : Int) - 2 + n) ((bs : Int) - 1) ≤ be)
    (hh : HeightP bs P j h) (hops : Holds P v j ops) (hn : ops.length = n) (hb : n ≤ bs) (hbs : 1 ≤ bs)
    (hroom : n = 0 → P (bs - 1) j = false) (htop : P 0 (j + 1) = true)
    (hfree : FreeFrom bs P (j + 1) (bs - n + 1)) :
    ∃ h' rest, HeightP bs P (j + 1) h' ∧ stk v j h = ops ++ rest ∧ stk v (j + 1) h' = X v 0 (j + 1) :: rest ∧
      rest.length < bs := by
  subst hn
  obtain ⟨hh', hs'⟩ := consume_produceP bs P v j h ops.length hh hbs (hops.le_height hh hb) hroom htop
    (fun i h1 h2 h3 => shift_one_sub i _ ▸ hmv i h1 (by omega)) hfree
  exact ⟨_, _, hh', hops.split hh hb, hs', by rw [List.length_drop, stk_length]; exact hh'.1⟩

theorem Moves.push {bs : Nat} {P : Nat → Nat → Bool} {v : Val} {j h : Nat} (hmv : Moves P v j 0 ((bs : Int) - 2) 1)
    (hh : HeightP bs P j h) (hbs : 1 ≤ bs) (hfull : P (bs - 1) j = false) (htop : P 0 (j + 1) = true) :
    h < bs ∧ ∃ h', HeightP bs P (j + 1) h' ∧ stk v (j + 1) h' = X v 0 (j + 1) :: stk v j h := by
  obtain ⟨h', _, hh', rfl, hs', hlt⟩ := hmv.produce (by omega) hh holds_nil rfl (Nat.zero_le _) hbs (fun _ => hfull) htop
    (fun i h1 h2 => by omega)
  exact ⟨by simpa using hlt, h', hh', hs'⟩

theorem freeFrom_last {bs : Nat} {P : Nat → Nat → Bool} {j : Nat} (h : P (bs - 1) j = false) :
    FreeFrom bs P j (bs - 1) := fun i h1 h2 => by rw [show i = bs - 1 by omega]; exact h

/-- what the transition constraint of an instruction of kind `k` says when that instruction sits at position `j`:
    the constraint of `synthesis_stack_constraints.py` for `k`, conjunct by conjunct, with "cell in use" for `u` -/
def Reads (I : Inst) (P : Nat → Nat → Bool) (v : Val) (val : SV → Int) (j : Nat) : Kind → Prop
  | .nop => Moves P v j 0 (I.bs - 1 : Nat) 0
  | .pop => P 0 j = true ∧ P (I.bs - 1) (j + 1) = false ∧ Moves P v j 1 (I.bs - 1 : Nat) (-1)
  | .pushBasic => 0 ≤ A v j ∧ A v j < I.intLimit ∧ P (I.bs - 1) j = false ∧ P 0 (j + 1) = true ∧
      X v 0 (j + 1) = A v j ∧ Moves P v j 0 ((I.bs : Int) - 2) 1
  | .dup k => P (I.bs - 1) j = false ∧ P (k - 1) j = true ∧ P 0 (j + 1) = true ∧ X v 0 (j + 1) = X v (k - 1) j ∧
      Moves P v j 0 ((I.bs : Int) - 2) 1
  | .swap k => P k j = true ∧ P 0 (j + 1) = true ∧ X v 0 (j + 1) = X v k j ∧ P k (j + 1) = true ∧
      X v k (j + 1) = X v 0 j ∧ Moves P v j 1 (k - 1 : Nat) 0 ∧ Moves P v j (k + 1) (I.bs - 1 : Nat) 0
  | .popU o0 => P 0 j = true ∧ X v 0 j = val o0 ∧ P (I.bs - 1) (j + 1) = false ∧ Moves P v j 1 (I.bs - 1 : Nat) (-1)
  | .store o0 o1 => P 0 j = true ∧ P 1 j = true ∧ (X v 0 j = val o0 ∧ X v 1 j = val o1) ∧
      Moves P v j 2 (I.bs - 1 : Nat) (-2) ∧ P (I.bs - 1) (j + 1) = false ∧ P (I.bs - 2) (j + 1) = false
  | .comm o0 o1 r => P 0 j = true ∧ P 1 j = true ∧
      (X v 0 j = val o0 ∧ X v 1 j = val o1 ∨ X v 0 j = val o1 ∧ X v 1 j = val o0) ∧ P 0 (j + 1) = true ∧
      X v 0 (j + 1) = val r ∧ Moves P v j 2 (I.bs - 1 : Nat) (-1) ∧ P (I.bs - 1) (j + 1) = false
  | .nonComm o r => Holds P v j (o.map val) ∧ FreeFrom I.bs P (j + 1) (I.bs - o.length + 1) ∧
      FreeFrom I.bs P j (I.bs + o.length - 1) ∧ P 0 (j + 1) = true ∧ X v 0 (j + 1) = val r ∧
      Moves P v j o.length (min ((I.bs : Int) - 2 + o.length) ((I.bs : Int) - 1)) (1 - (o.length : Int))

/-- `Holds` in the shape in which the encoders say it: one conjunct per element of `zipIdx` -/
theorem holds_map_iff {α} (P : Nat → Nat → Bool) (v : Val) (j : Nat) (f : α → Int) (ts : List α) :
    Holds P v j (ts.map f) ↔ ∀ p ∈ ts.zipIdx, P p.2 j = true ∧ X v p.2 j = f p.1 := by
  simp only [Holds, Prod.forall, List.mem_zipIdx_iff_getElem?, List.getElem?_eq_some_iff, List.length_map,
    List.getElem_map]
  exact ⟨fun h x i ⟨hi, e⟩ => e ▸ h i hi, fun h i hi => h _ i ⟨hi, rfl⟩⟩

theorem stepVal_swap (I : Inst) (val : SV → Int) (k : Nat) (a : Int) (s : List Int) (hk : 1 ≤ k) (hks : k < s.length) :
    stepVal I val (.swap k) a s = some ((s.set k (s[0]'(by omega))).set 0 s[k]) := by
  obtain ⟨k, rfl⟩ : ∃ k', k = k' + 1 := ⟨k - 1, by omega⟩
  cases s with
  | nil => simp at hks
  | cons top rest =>
    have hk' : k < rest.length := by simpa using hks
    simp [stepVal, hk']

/-- one transition constraint is one step of the abstract stack machine -/
theorem reads_sound (I : Inst) (P : Nat → Nat → Bool) (v : Val) (val : SV → Int) (j h : Nat)
    (hh : HeightP I.bs P j h) (k : Kind) (hfit : kindFits I.bs k = true) (hr : Reads I P v val j k) :
    ∃ h', HeightP I.bs P (j + 1) h' ∧ stepVal I val k (A v j) (stk v j h) = some (stk v (j + 1) h') := by
  have hle := hh.1
  cases k <;> simp only [kindFits, Bool.and_eq_true, decide_eq_true_eq] at hfit
  case nop =>
    obtain ⟨h', hh', hs⟩ := Moves.consume holds_nil hr hh (Nat.zero_le _)
      (fun i h1 h2 => absurd h2 (Nat.not_lt.mpr h1))
    exact ⟨h', hh', congrArg some hs⟩
  case pop =>
    obtain ⟨h0, hlast, hmv⟩ := hr
    obtain ⟨h', hh', hs⟩ := Moves.consume (holds_one h0 rfl) hmv hh hfit (freeFrom_last hlast)
    exact ⟨h', hh', by rw [hs]; rfl⟩
  case pushBasic =>
    obtain ⟨h1, h2, hfull, htop, hx, hmv⟩ := hr
    obtain ⟨hlt, h', hh', hs⟩ := hmv.push hh hfit hfull htop
    exact ⟨h', hh', by simp [stepVal, hlt, h1, h2, hs, hx]⟩
  case dup k =>
    obtain ⟨hfull, hk1, htop, hx, hmv⟩ := hr
    obtain ⟨hlt, h', hh', hs⟩ := hmv.push hh (by omega) hfull htop
    have hkh : k - 1 < h := heightP_lt hh (k - 1) (by omega) hk1
    exact ⟨h', hh', by simp [stepVal, hlt, stk_getElem? v j h (k - 1) hkh, hs, hx]⟩
  case swap k =>
    obtain ⟨hkj, h0, hx0, hk1, hxk, hm1, hm2⟩ := hr
    have hkh : k < h := heightP_lt hh k hfit.2 hkj
    have hsame : ∀ i, i < I.bs → i ≠ 0 → i ≠ k → P i (j + 1) = P i j ∧ X v i (j + 1) = X v i j := by
      intro i hi h0' hk'
      by_cases hlt : i < k
      · exact hm1 i (Nat.pos_of_ne_zero h0') (Int.ofNat_le.mpr (Nat.le_sub_one_of_lt hlt))
      · exact hm2 i (Nat.lt_of_le_of_ne (Nat.le_of_not_lt hlt) (Ne.symm hk'))
          (Int.ofNat_le.mpr (Nat.le_sub_one_of_lt hi))
    refine ⟨h, ⟨hle, ?_⟩, ?_⟩
    · intro i hi
      by_cases hi0 : i = 0
      · subst hi0; simp [h0]; omega
      · by_cases hik : i = k
        · subst hik; simp [hk1, hkh]
        · rw [(hsame i hi hi0 hik).1]; exact hh.2 i hi
    · rw [stepVal_swap I val k _ _ hfit.1 (by simpa using hkh)]
      refine congrArg some (List.ext_getElem (by simp) fun i h1 h2 => ?_)
      have hi : i < h := by simpa using h2
      simp only [List.getElem_set, stk_getElem _ _ _ _ hi, stk_getElem v j h 0 (by omega), stk_getElem v j h k hkh]
      split
      · subst i; exact hx0.symm
      · split
        · subst i; exact hxk.symm
        · rename_i hi0 hik
          exact (hsame i (Nat.lt_of_lt_of_le hi hle) (Ne.symm hi0) (Ne.symm hik)).2.symm
  case popU o0 =>
    obtain ⟨h0, hx, hlast, hmv⟩ := hr
    obtain ⟨h', hh', hs⟩ := Moves.consume (holds_one h0 hx) hmv hh hfit (freeFrom_last hlast)
    exact ⟨h', hh', by simp [stepVal, hs]⟩
  case store o0 o1 =>
    obtain ⟨h0, h1, hx, hmv, hl1, hl2⟩ := hr
    obtain ⟨h', hh', hs⟩ := Moves.consume (holds_two h0 h1 hx) hmv hh hfit
      (fun i (h1 : I.bs - 2 ≤ i) h2 => by
        rcases (show i = I.bs - 1 ∨ i = I.bs - 2 by omega) with rfl | rfl
        · exact hl1
        · exact hl2)
    exact ⟨h', hh', by simp [stepVal, hs]⟩
  case comm o0 o1 r =>
    obtain ⟨h0, h1, hx, htop, hxr, hmv, hl1⟩ := hr
    obtain ⟨h', rest, hh', hs, hs', _⟩ := hmv.produce (by omega) hh (holds_two h0 h1 ⟨rfl, rfl⟩) rfl hfit (by omega)
      (by omega) htop (fun i h1 h2 => freeFrom_last hl1 i (by omega) h2)
    exact ⟨h', hh', by simp [stepVal, hs, hs', hx, hxr]⟩
  case nonComm o r =>
    obtain ⟨hop, hsecond, hthird, htop, hxr, hmv⟩ := hr
    obtain ⟨h', rest, hh', hs, hs', hlt⟩ := hmv.produce (Int.le_refl _) hh hop (List.length_map _) hfit.1 hfit.2
      (fun h0 => hthird (I.bs - 1) (by omega) (by omega)) htop hsecond
    exact ⟨h', hh', by simp [stepVal, hs, hs', hlt, hxr, List.take_left', List.drop_left']⟩

theorem height_of_holds {bs : Nat} {P : Nat → Nat → Bool} {v : Val} {j : Nat} {l : List Int} (hl : Holds P v j l)
    (hf : FreeFrom bs P j l.length) (hb : l.length ≤ bs) : HeightP bs P j l.length ∧ stk v j l.length = l := by
  refine ⟨⟨hb, fun i hi => ?_⟩, stk_eq_of_get v j l fun i hi => (hl i hi).2⟩
  by_cases hlt : i < l.length
  · simp [(hl i hlt).1, hlt]
  · simp [hf i (by omega) hi, hlt]

theorem runVal_append (I : Inst) (val : SV → Int) (p q : List (Kind × Int)) (s : List Int) :
    runVal I val (p ++ q) s = (runVal I val p s).bind (runVal I val q) := by
  induction p generalizing s with
  | nil => rfl
  | cons x p ih => simp only [List.cons_append, runVal, Option.bind_assoc, ← ih]

theorem run_of_reads (I : Inst) (P : Nat → Nat → Bool) (v : Val)
    (hfit : ∀ ins ∈ I.instrs, kindFits I.bs ins.kind = true)
    (hstep : ∀ j, j < I.b0 → ∃ ins ∈ I.instrs, T v j = thetaV I v ins.theta ∧ Reads I P v (valOf I v) j ins.kind)
    (S E : List Int) (hS : S.length ≤ I.bs) (hE : E.length ≤ I.bs)
    (hini : Holds P v 0 S ∧ FreeFrom I.bs P 0 S.length) (hfin : Holds P v I.b0 E ∧ FreeFrom I.bs P I.b0 E.length) :
    ∃ steps : List (Kind × Int), steps.length = I.b0 ∧ Decodes I v steps ∧
      runVal I (valOf I v) steps S = some E := by
  have h0 := height_of_holds hini.1 hini.2 hS
  have hF := height_of_holds hfin.1 hfin.2 hE
  -- the height at position `k` is whatever the steps so far leave; at `b0` it is `E.length`, heights being unique
  have main : ∀ k, k ≤ I.b0 → ∃ (steps : List (Kind × Int)) (h : Nat), steps.length = k ∧ Decodes I v steps ∧
      HeightP I.bs P k h ∧ runVal I (valOf I v) steps S = some (stk v k h) := by
    intro k
    induction k with
    | zero => exact fun _ => ⟨[], S.length, rfl, fun j h => absurd h (Nat.not_lt_zero _), h0.1, by simp [runVal, h0.2]⟩
    | succ k ih =>
      intro hk
      obtain ⟨steps, h, hlen, hdec, hh, hrun⟩ := ih (by omega)
      obtain ⟨ins, hmem, hT, hr⟩ := hstep k (by omega)
      obtain ⟨h', hh', hs⟩ := reads_sound I P v (valOf I v) k h hh ins.kind (hfit ins hmem) hr
      refine ⟨steps ++ [(ins.kind, A v k)], h', by simp [hlen], ?_, hh', by simp [runVal_append, hrun, runVal, hs]⟩
      intro j hj
      by_cases hjl : j < steps.length
      · simpa [List.getElem_append_left hjl] using hdec j hjl
      · have : j = steps.length := by simp at hj; omega
        subst this
        exact ⟨ins, hmem, by simpa [hlen] using hT⟩
  obtain ⟨steps, h, hlen, hdec, hh, hrun⟩ := main I.b0 (Nat.le_refl _)
  rw [heightP_unique hh hF.1, hF.2] at hrun
  exact ⟨steps, hlen, hdec, hrun⟩

end GasolVerif.Enc
