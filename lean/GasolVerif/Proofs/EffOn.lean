/-
  C02: the one case analysis on operation names.  `stepEffect` (symbolic evaluation) and `effOf` (concrete meaning) classify a
  memory/storage operation by the same match on its name, its arguments and its result.  `opCases` is that match, polymorphic in
  what the arguments are and in what is built from them; its instance `effOn` yields an `Eff`, and `stepEffect`, `effOf` and the
  action on argument values (`actVal`, SpecSim) are functions of it (`stepEffect_eq`, `effOf_eq`, `actWith_effOn`; `opCases_comp`
  and `opCases_map` move a function through the match).  What is then said about the seven kinds goes by cases on `Eff`.
-/
import GasolVerif.Models.SpecSem
namespace GasolVerif.Spec

def opCases {τ α : Type} (op : String) (args : List τ) (out : Option String)
    (wmem bmem wsto : τ → τ → α) (rmem rsto : String → τ → α) (hmem : String → τ → τ → α) (skip : α) : α :=
  match op, args, out with
  | "MSTORE", [a, v], _ => wmem a v
  | "MSTORE8", [a, v], _ => bmem a v
  | "SSTORE", [k, v], _ => wsto k v
  | "MLOAD", [a], some o => rmem o a
  | "SLOAD", [k], some o => rsto o k
  | "KECCAK256", [off, len], some o => hmem o off len
  | "SHA3", [off, len], some o => hmem o off len
  | _, _, _ => skip

section
variable {τ υ α β : Type} {op : String} {args : List τ} {out : Option String}
  {w b s : τ → τ → α} {r rs : String → τ → α} {h : String → τ → τ → α} {sk : α}

theorem opCases_ind {motive : α → Prop} (hw : ∀ a v, op = "MSTORE" → args = [a, v] → motive (w a v))
    (hb : ∀ a v, op = "MSTORE8" → args = [a, v] → motive (b a v))
    (hs : ∀ k v, op = "SSTORE" → args = [k, v] → motive (s k v))
    (hr : ∀ o a, op = "MLOAD" → args = [a] → out = some o → motive (r o a))
    (hrs : ∀ o k, op = "SLOAD" → args = [k] → out = some o → motive (rs o k))
    (hh : ∀ o a l, op = "KECCAK256" ∨ op = "SHA3" → args = [a, l] → out = some o → motive (h o a l)) (hsk : motive sk) :
    motive (opCases op args out w b s r rs h sk) := by
  unfold opCases
  split
  · exact hw _ _ rfl rfl
  · exact hb _ _ rfl rfl
  · exact hs _ _ rfl rfl
  · exact hr _ _ rfl rfl rfl
  · exact hrs _ _ rfl rfl rfl
  · exact hh _ _ _ (.inl rfl) rfl rfl
  · exact hh _ _ _ (.inr rfl) rfl rfl
  · exact hsk

theorem opCases_comp (f : α → β) :
    f (opCases op args out w b s r rs h sk) =
      opCases op args out (fun a v => f (w a v)) (fun a v => f (b a v)) (fun a v => f (s a v))
        (fun o a => f (r o a)) (fun o a => f (rs o a)) (fun o a l => f (h o a l)) (f sk) := by
  unfold opCases
  -- both matches are on the same variables: one `split` decides both
  split <;> rfl

theorem opCases_map (g : υ → τ) (l : List υ) :
    opCases op (l.map g) out w b s r rs h sk =
      opCases op l out (fun a v => w (g a) (g v)) (fun a v => b (g a) (g v)) (fun a v => s (g a) (g v))
        (fun o a => r o (g a)) (fun o a => rs o (g a)) (fun o a l => h o (g a) (g l)) sk := by
  -- on a list of known shape the unfolded matcher computes, whatever `op` is
  unfold opCases opCases.match_1
  rcases l with _ | ⟨a, _ | ⟨v, _ | ⟨c, l⟩⟩⟩ <;> rfl
end

/-- the operation `u` applied to the argument terms `args`, as an effect -/
def effOn (u : UInstr) (args : List Tm) : Eff := opCases u.op args u.out .wmem .bmem .wsto .rmem .rsto .hmem .skip

/-- what an effect does to the symbolic evaluation state (`id` names the operation in the access log) -/
def Eff.step (id : String) (st : EvalSt) : Eff → Option EvalSt
  | .wmem a v => some { st with mem := .mstore st.mem a v, log := st.log ++ [(id, a, some v)] }
  | .bmem a v => some { st with mem := .mstore8 st.mem a v, log := st.log ++ [(id, a, some v)] }
  | .wsto k v => some { st with sto := .sstore st.sto k v, log := st.log ++ [(id, k, some v)] }
  | .rmem o a => some { st with env := (o, .mload st.mem a) :: st.env, log := st.log ++ [(id, a, none)] }
  | .rsto o k => some { st with env := (o, .sload st.sto k) :: st.env, log := st.log ++ [(id, k, none)] }
  | .hmem o off len => some { st with env := (o, .keccak st.mem off len) :: st.env, log := st.log ++ [(id, off, some len)] }
  | .skip => none

theorem stepEffect_eq (S : Spec) (st : EvalSt) (u : UInstr) :
    stepEffect S st u = (termsOf S st.env (fuelOf S) u.inp).bind fun args => (effOn u args).step u.id st := by
  simp only [effOn, opCases_comp (Eff.step u.id st)]
  -- the two matchers are the same decision tree, which `rfl` sees once they are unfolded (a `split` of a match on
  -- string literals is slow to check)
  unfold stepEffect opCases stepEffect.match_1 opCases.match_1
  rfl

theorem stepEffect_some {S : Spec} {st st' : EvalSt} {u : UInstr} :
    stepEffect S st u = some st' ↔
      ∃ args, termsOf S st.env (fuelOf S) u.inp = some args ∧ (effOn u args).step u.id st = some st' := by
  rw [stepEffect_eq, Option.bind_eq_some_iff]

theorem effOn_nil (u : UInstr) : effOn u [] = .skip := by
  -- every operation wants at least one argument
  refine opCases_ind (motive := (· = Eff.skip)) ?_ ?_ ?_ ?_ ?_ ?_ rfl <;> (intros; contradiction)

theorem effOf_eq (S : Spec) (u : UInstr) : effOf S u = (argsTm S u).elim .skip (effOn u) := by
  -- with `.skip` read as `effOn u []` the two sides are again the same decision tree, with or without argument terms
  rw [← effOn_nil u]
  unfold effOf effOn opCases effOf.match_1 opCases.match_1
  cases argsTm S u <;> rfl

/-- an operation that does something is a memory/storage operation; what it loads is the result `u` names; if it loads nothing it is
    a store -/
theorem effOn_spec (u : UInstr) (args : List Tm) : effOn u args ≠ .skip →
    u.isEffect = true ∧ (∀ o, (effOn u args).out? = some o → u.out = some o) ∧ ((effOn u args).out? = none → u.isStore = true) := by
  refine opCases_ind (motive := fun f => f ≠ Eff.skip →
    u.isEffect = true ∧ (∀ o, f.out? = some o → u.out = some o) ∧ (f.out? = none → u.isStore = true)) ?_ ?_ ?_ ?_ ?_ ?_ (absurd rfl)
  all_goals intros; simp [*, UInstr.isEffect, UInstr.isMem, UInstr.isSto, UInstr.isStore, memOps, stoOps, Eff.out?]

end GasolVerif.Spec
