/-
  C04 / C16: what a successful `stepId`, `runIds`, `realizes` is.  A successful step has one of six shapes; each
  shape comes with the instructions `instrsOfId` gives for the identifier, so that the accounting of C16
  (`stepId_rel`) and the simulation of C04 (`stepId_sim`) read the two definitions through `stepId_inv` only; runs are
  taken apart by `runIds_cons_inv` / `runIds_invariant`, `realizes` by `realizes_inv`.
-/
import GasolVerif.Models.Realize
namespace GasolVerif.Spec

/-- a successful `stepId S st id`: the state it ends in, and what `instrsOfId S id` is -/
inductive Step (S : Spec) (st : RunSt) (id : String) : RunSt → Prop
  | nop : instrsOfId S id = some [] → Step S st id st
  | push (n : Nat) : instrsOfId S id = some [.push (BitVec.ofNat 256 n)] →
      Step S st id { st with stack := .const n :: st.stack, peak := max st.peak (st.stack.length + 1) }
  | pop (a : Atom) (r : List Atom) : instrsOfId S id = some [.pop] → st.stack = a :: r →
      Step S st id { st with stack := r }
  | dup (k : Nat) (a : Atom) : instrsOfId S id = some [.dup k] → k ≠ 0 → k ≤ 16 → st.stack[k - 1]? = some a →
      Step S st id { st with stack := a :: st.stack, peak := max st.peak (st.stack.length + 1) }
  | swap (k : Nat) (top a : Atom) (rest : List Atom) : instrsOfId S id = some [.swap k] → k ≠ 0 → k ≤ 16 →
      st.stack = top :: rest → rest[k - 1]? = some a → Step S st id { st with stack := a :: rest.set (k - 1) top }
  | op (u : UInstr) (stack : List Atom) : instrsOfId S id = (instrOfU u).map (fun i => [i]) →
      S.find? id = some u → u.inp.length ≤ st.stack.length →
      ((st.stack.take u.inp.length).map (resolve S) = u.inp.map (resolve S) ∨
        (u.comm = true ∧ (BinOp.ofName? u.op).any (·.comm) = true) ∧
          (st.stack.take u.inp.length).map (resolve S) = (u.inp.map (resolve S)).reverse) →
      (u.isStore = true → id ∉ st.done) →
      stack = (match u.out with
        | some o => .var o :: st.stack.drop u.inp.length
        | none => st.stack.drop u.inp.length) →
      Step S st id { stack := stack, done := st.done ++ [id], peak := max st.peak stack.length }

theorem stepId_inv (S : Spec) (st st' : RunSt) (id : String) (h : stepId S st id = .ok st') : Step S st id st' := by
  have hk16 : ∀ k, ¬ (decide (k = 0) || decide (k > 16)) = true → k ≠ 0 ∧ k ≤ 16 := fun k hk => by
    simpa [Nat.not_lt] using hk
  revert h
  -- the clauses of `stepId` that end in `.ok`, in the order of the definition, each with the outcomes of the tests that lead
  -- to it; `instrsOfId` makes the same tests in the same order and is rewritten with them
  fun_cases stepId S st id <;> intro h <;> cases h
  · next hnop => exact .nop (by rw [instrsOfId, if_pos hnop])    -- "NOP"
  · next hnop hpush n hn =>    -- "PUSH#n"
    exact .push n (by rw [instrsOfId, if_neg hnop, if_pos hpush, hn]; rfl)
  · next hnop hpush hpop a r hs =>    -- "POP"
    exact .pop a r (by rw [instrsOfId, if_neg hnop, if_neg hpush, if_pos hpop]) hs
  · next hnop hpush hpop k hdup hk a ha =>    -- "DUPk"
    exact .dup k a (by rw [instrsOfId, if_neg hnop, if_neg hpush, if_neg hpop, hdup]) (hk16 k hk).1 (hk16 k hk).2 ha
  · next hnop hpush hpop hdup k hswap hk top rest hs a ha =>    -- "SWAPk"
    exact .swap k top a rest (by rw [instrsOfId, if_neg hnop, if_neg hpush, if_neg hpop, hdup, hswap]) (hk16 k hk).1
      (hk16 k hk).2 hs ha
  · next hnop hpush hpop hdup hswap u hf n hlen args want hargs hdone rest stack =>    -- an instruction `u` of `S`
    simp only [Bool.not_eq_true', Bool.not_eq_false, Bool.or_eq_true, Bool.and_eq_true, beq_iff_eq,
      List.contains_eq_mem, decide_eq_true_eq, not_and] at hargs hdone
    exact .op u _ (by rw [instrsOfId, if_neg hnop, if_neg hpush, if_neg hpop, hdup, hswap, hf]; rfl) hf
      (Nat.le_of_not_lt hlen) hargs hdone rfl

/-- `resolve` leaves a variable as it is unless its producer is a `PUSH`/`PUSH0` of a readable constant -/
theorem resolve_var (S : Spec) (v : String) : resolve S (.var v) = .var v ∨
    ∃ u n, S.producer? v = some u ∧ (u.op = "PUSH" ∨ u.op = "PUSH0") ∧ parseHex? u.sym = some n ∧
      resolve S (.var v) = .const n := by
  simp only [resolve]
  split
  next u hp =>
    split
    next hop =>
      split
      next n hx => exact .inr ⟨u, n, hp, by simpa using hop, hx, rfl⟩
      next => exact .inl rfl
    next => exact .inl rfl
  next => exact .inl rfl

theorem find?_inv (S : Spec) (id : String) (w : UInstr) (h : S.find? id = some w) : w ∈ S.instrs ∧ w.id = id :=
  ⟨List.mem_of_find?_eq_some h, by simpa using List.find?_some h⟩

theorem runIds_cons_inv (S : Spec) (id : String) (ids : List String) (st st' : RunSt)
    (h : runIds S (id :: ids) st = .ok st') : ∃ st1, stepId S st id = .ok st1 ∧ runIds S ids st1 = .ok st' := by
  rw [runIds] at h
  split at h
  next st1 h1 => exact ⟨st1, h1, h⟩
  next => cases h

theorem runIds_invariant (S : Spec) (P : RunSt → Prop)
    (hstep : ∀ st id st', stepId S st id = .ok st' → P st → P st') :
    ∀ (ids : List String) (st st' : RunSt), runIds S ids st = .ok st' → P st → P st'
  | [], st, st', h, hP => by simp only [runIds] at h; cases h; exact hP
  | id :: ids, st, st', h, hP => by
    obtain ⟨st1, h1, h2⟩ := runIds_cons_inv S id ids st st' h
    exact runIds_invariant S P hstep ids st1 st' h2 (hstep st id st1 h1 hP)

/-- the initial state of `realizes` -/
def st0 (S : Spec) : RunSt := { stack := S.src.map .var, peak := S.src.length }

/-- what `realizes` checks (the dependence pairs aside): the run succeeds, ends with the specified stack, and performs
    every store -/
theorem realizes_inv (S : Spec) (ids : List String) (st' : RunSt) (h : realizes S ids = .ok st') :
    runIds S ids (st0 S) = .ok st' ∧ st'.stack.map (resolve S) = S.tgt.map (resolve S)
      ∧ ∀ u ∈ S.instrs.filter (·.isStore), u.id ∈ st'.done := by
  revert h
  fun_cases realizes S ids <;> intro h <;> cases h
  -- the one clause that ends in `.ok`: the run, then the tests of the final stack, the stores and the dependence pairs
  next hrun hstack hstores _ =>
  exact ⟨hrun, by simpa using hstack, fun u hu => by simpa using List.find?_eq_none.mp hstores u hu⟩

end GasolVerif.Spec
