import Lean.Meta.Tactic.Simp.RegisterCommand

/-- evaluation equations of terms and the glue that reduces "every result of a partial rewrite has
    value `v`" to one equation per leaf of the rewrite's definition -/
register_simp_attr eval_simp
