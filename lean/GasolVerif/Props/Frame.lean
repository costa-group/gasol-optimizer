/-
  C12: a block's result does not depend on what was processed before it.
  `frame` is the abstract reason; `generated_frame_ok_*` instantiate its premise on the tables that
  harness/extract.py regenerates from /repo on every run (kernel-checked on what the code says now).
-/
import GasolVerif.Generated.Globals
namespace GasolVerif.Frame

abbrev Store (V : Type) := String → V

/-- re-initialisation at block entry: the names in `Z` get their initial values -/
def reset {V : Type} (Z : List String) (init : Store V) (s : Store V) : Store V :=
  fun n => if n ∈ Z then init n else s n

/-- **frame theorem**: if the block pipeline reads only names that are re-initialised at entry (`Z`) or
    that every history leaves alike (`P`: constants, option-determined or defined-before-use names),
    its result is the same after any two histories -/
theorem frame {V R : Type} (Z P Rd : List String) (init : Store V) (process : Store V → R)
    (hdep : ∀ s₁ s₂ : Store V, (∀ n ∈ Rd, s₁ n = s₂ n) → process s₁ = process s₂)
    (hsub : ∀ n ∈ Rd, n ∈ Z ∨ n ∈ P)
    (h₁ h₂ : Store V) (hP : ∀ n ∈ P, h₁ n = h₂ n) :
    process (reset Z init h₁) = process (reset Z init h₂) := by
  refine hdep _ _ fun n hn => ?_
  by_cases hz : n ∈ Z
  · simp [reset, hz]
  · simp [reset, hz, hP n ((hsub n hn).resolve_left hz)]

/-- names read by the block pipeline of gasol_optimization.py that are neither re-initialised at entry
    nor constants, each with the reason why no history can reach a block through it -/
def allowedGasolOptimization : List (String × String) :=
  [ ("memory_order", "assigned by generate_storage_info / generate_encoding before its first read in every block"),
    ("storage_order", "assigned by generate_storage_info / generate_encoding before its first read in every block"),
    ("original_opcodes", "assigned by translate_block before its first read in every block"),
    ("compute_gast", "statistics flag, constant True"),
    ("push_rebuilt", "write-only dictionary (subscript stores only)") ]

open Generated in
theorem generated_frame_ok_gasol_optimization :
    gasolOptimizationRead.all (fun n => gasolOptimizationReset.contains n || gasolOptimizationConst.contains n ||
      (allowedGasolOptimization.map (·.1)).contains n) = true := by
  -- every name is found on one of the lists by `rfl` between identical literals; no two different strings are compared
  -- (why: `Iteration.generated_iteration_sites_ok`)
  simp only [gasolOptimizationRead, gasolOptimizationReset, gasolOptimizationConst, allowedGasolOptimization, List.all_cons, List.all_nil,
    List.map_cons, List.map_nil, List.contains_eq_mem, List.mem_cons, eq_self, or_true, true_or, decide_true, Bool.or_true, Bool.true_or,
    Bool.and_self]

open Generated in
theorem generated_frame_ok_ir_block :
    irBlockRead.all (fun n => irBlockReset.contains n || irBlockConst.contains n) = true := by
  simp only [irBlockRead, irBlockReset, List.all_cons, List.all_nil, List.contains_eq_mem, List.mem_cons, eq_self, or_true, true_or,
    decide_true, Bool.true_or, Bool.and_self]

/-- class-level containers that are mutated in place and shared by all instances, with the reason why no history reaches a block
    through them -/
def allowedClassShared : List (String × String) :=
  [ ("smt_encoding/singleton.py:Singleton._instances", "registry of the metaclass: holds the one stateless Connectors object") ]

open Generated in
/-- state that outlives an object: every class-level container that some method mutates in place is rebound per instance in
    `__init__` (then the class-level binding is only a default that is never shared), or is on the allow-list -/
theorem generated_class_state_ok :
    classShared.all (fun e => !e.2.2 || e.2.1 || (allowedClassShared.map (·.1)).contains e.1) = true := by
  simp only [classShared, allowedClassShared, List.all_cons, List.all_nil, List.map_cons, List.map_nil, List.contains_eq_mem,
    List.mem_cons, eq_self, true_or, decide_true, Bool.or_true, Bool.and_self]

open Generated in
/-- state that outlives a call: no parameter with a mutable default value is mutated in place -/
theorem generated_defaults_ok : mutableDefaults.all (fun e => !e.2) = true := by decide +kernel      -- no string is compared

end GasolVerif.Frame
