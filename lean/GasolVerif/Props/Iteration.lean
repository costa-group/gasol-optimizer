/-
  C13: places where the code visits the elements of a set in the set's own order (which depends on the string-hash seed).
  `harness/extract.py` regenerates the list from /repo with `ast` on every run; each site is either consumed by something that
  does not see the order (sorted, set, len, sum, min, max, any, all, membership: `Proofs/Determinism.lean` has the lemmas) or is on
  the allow-list below with the reason why the order cannot reach a specification, a greedy sequence or an output file.
  The obligation is proved, and checked by the kernel, on what the code says now; a new site breaks it.
-/
import GasolVerif.Generated.Globals
namespace GasolVerif.Iteration

def allowedSetIteration : List (String × String) :=
  [ ("greedy/block_generation.py:target:for:needed_set",
      "each round adds to the counter of its own element; needed_list does not depend on the order of needed_set"),
    ("greedy/block_generation.py:target:for:to_remove", "removes the keys of to_remove from a dictionary: any order gives the same dictionary"),
    ("sfs_generator/rbr_rule.py:update_bc:list:set(aux)", "argument lists of the intermediate rule objects: printed for debugging only, never read back by the block pipeline"),
    ("sfs_generator/rbr_rule.py:update_global_arg:list:set(aux)", "as update_bc"),
    ("sfs_generator/rbr_rule.py:update_local_arg:list:set(self.arg_local + l)", "as update_bc"),
    ("smt_encoding/complete_encoding/synthesis_additional_constraints.py:each_function_is_used_at_most_once:comprehension:positions",
      "a set of small integers (their hash is their value) feeding the arguments of a conjunction"),
    ("smt_encoding/complete_encoding/synthesis_pre_order.py:happens_before_from_dependency_graph:for:dependency_graph_set_theta",
      "a dictionary (insertion order); the inner sets hold integers; only the order of emitted hard constraints could move"),
    ("smt_encoding/instructions/instruction_bounds_with_dependencies.py:__init__:list:set((instruction.id for instruction in instructions if instr",
      "the maximal stores all receive the same upper bound b0, whatever their order"),
    ("smt_encoding/instructions/instruction_bounds_with_dependencies.py:toposort_instr_dependencies:list:set((instr_id for instr_id in dependency_graph)).difference(",
      "start nodes of a topological sort: every topological order gives the same bounds (each bound is computed from predecessors only)"),
    ("smt_encoding/instructions/instruction_bounds_with_dependencies.py:update_with_tree_level:for:set(dependent_instr_ids).difference(analyzed_instr_ids)",
      "update_current_index takes minimum and maximum: commutative"),
    ("smt_encoding/instructions/instruction_dependencies.py:toposort_instr_dependencies:list:set((instr_id for instr_id in dependency_graph)).difference(",
      "as in instruction_bounds_with_dependencies.py"),
    ("smt_encoding/json_with_dependencies.py:bounds_from_instructions:list:set((instruction.id for instruction in instructions if instr",
      "as InstructionBoundsWithDependencies.__init__") ]

open Generated in
/-- every place that visits a set in its own order feeds an order-insensitive consumer or is on the allow-list -/
theorem generated_iteration_sites_ok :
    setIterationSites.all (fun e => e.2 || (allowedSetIteration.map (·.1)).contains e.1) = true := by
  -- Each site is found on the list by `rfl` between identical literals and no two different strings are ever compared:
  -- `String.decEq` in the kernel encodes both sides to UTF-8 bytes and is quadratic in their length.
  simp only [setIterationSites, allowedSetIteration, List.all_cons, List.all_nil, List.map_cons, List.map_nil, List.contains_eq_mem,
    List.mem_cons, eq_self, or_true, true_or, decide_true, Bool.or_true, Bool.true_or, Bool.and_self]

/-- calls through which the clock, the load of the machine, the identity of the process or the order of a directory listing could reach a
    result, each with the reason why it does not reach a specification, a greedy sequence or an emitted file -/
def allowedEnvSources : List (String × String) :=
  [ ("global_params/paths.py:<module>:uuid.uuid4", "names the temporary directory of the run; only paths of intermediate files contain it"),
    ("greedy/block_generation.py:greedy_standalone:resource.getrusage", "measures the time reported in the statistics (time columns are outside the property)"),
    ("smt_encoding/solver/solver_from_executable.py:run_and_measure_command:resource.getrusage", "as greedy_standalone"),
    ("solution_generation/solver_output_generation.py:run_and_measure_command:resource.getrusage", "as greedy_standalone"),
    ("sfs_generator/gasol_optimization.py:generate_json:os.listdir", "membership test for a directory name before creating it"),
    ("sfs_generator/gasol_optimization.py:write_instruction_block:os.listdir", "membership test for a directory name before creating it"),
    ("sfs_generator/ir_block.py:write_rbr:os.listdir", "membership test for a directory name before creating it"),
    ("verification/forves_verification.py:compare_forves:tempfile.mkstemp", "temporary file handed to the external checker") ]

open Generated in
/-- no other call lets time, load, process identity or directory order into the pipeline -/
theorem generated_env_sources_ok : envSources.all (fun e => (allowedEnvSources.map (·.1)).contains e) = true := by
  simp only [envSources, allowedEnvSources, List.all_cons, List.all_nil, List.map_cons, List.map_nil, List.contains_eq_mem,
    List.mem_cons, eq_self, or_true, true_or, decide_true, Bool.and_self]

end GasolVerif.Iteration
