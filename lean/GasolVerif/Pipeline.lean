/-
  The per-block pipeline of gasol_asm (optimize, re-check, keep or revert) over abstract,
  possibly failing oracles.  C01: the emitted block is equivalent to the input whatever the search
  returns, provided the re-check is sound.  C10: the pipeline is total and a failure costs at most the
  block it happens in.  C11: replaying a log either fails or emits an equivalent block.
-/
import GasolVerif.Evm
namespace GasolVerif.Pipeline

/-- back ends and checker as arbitrary, possibly failing functions (`none` = raises / reports error) -/
structure Oracles (Blk : Type) where
  optimize : Blk → Option Blk
  compare : Blk → Blk → Option Bool

variable {Blk : Type}

/-- `optimize_asm_block_asm_format` followed by the keep-or-revert of `optimize_asm_contract` -/
def optimizeBlock (O : Oracles Blk) (b : Blk) : Blk :=
  match O.optimize b with
  | none => b
  | some b' =>
    match O.compare b b' with
    | some true => b'
    | _ => b

def optimizeContract (O : Oracles Blk) (bs : List Blk) : List Blk := bs.map (optimizeBlock O)

/-- C11: replay rebuilds a block from logged ids and re-checks it; any log content either aborts
    (`none`) or yields an equivalent block -/
def replayBlock (rebuild : Blk → Option Blk) (compare : Blk → Blk → Option Bool) (b : Blk) : Option Blk :=
  match rebuild b with
  | none => none
  | some b' =>
    match compare b b' with
    | some true => some b'
    | _ => none

theorem replayBlock_eq_some {rebuild : Blk → Option Blk} {compare : Blk → Blk → Option Bool} {b out : Blk} :
    replayBlock rebuild compare b = some out ↔ rebuild b = some out ∧ compare b out = some true := by
  unfold replayBlock
  cases rebuild b with
  | none => simp
  | some b' =>
    -- `some b'` is returned exactly when the comparison of `b` with `b'` says `some true`
    dsimp only
    constructor
    · intro h
      split at h
      · rename_i hc; cases h; exact ⟨rfl, hc⟩
      · cases h
    · rintro ⟨h, hc⟩; cases h; rw [hc]

/-- keep-or-revert is replay with the input block as the fallback -/
theorem optimizeBlock_eq (O : Oracles Blk) (b : Blk) :
    optimizeBlock O b = (replayBlock O.optimize O.compare b).getD b := by
  unfold optimizeBlock replayBlock
  cases O.optimize b with
  | none => rfl
  | some b' => dsimp only; split <;> rfl

/-- the pipeline always produces an output, with one block per input block -/
theorem contract_total (O : Oracles Blk) (bs : List Blk) : (optimizeContract O bs).length = bs.length :=
  List.length_map _

/-- a block on which the analysis, the search or the re-check fails is emitted unchanged -/
theorem failed_block_unchanged (O : Oracles Blk) (b : Blk)
    (h : O.optimize b = none ∨ ∀ b', O.optimize b = some b' → O.compare b b' ≠ some true) :
    optimizeBlock O b = b := by
  rw [optimizeBlock_eq]
  cases hr : replayBlock O.optimize O.compare b with
  | none => rfl
  | some out =>
    obtain ⟨ho, hc⟩ := replayBlock_eq_some.mp hr
    rcases h with h | h
    · rw [h] at ho; cases ho
    · exact absurd hc (h out ho)

/-- **fault locality**: two oracle families that agree on a block treat it alike, wherever it stands
    and whatever happens to the other blocks -/
theorem fault_local (O O₀ : Oracles Blk) (bs : List Blk) (i : Nat) (hi : i < bs.length)
    (h₁ : O.optimize bs[i] = O₀.optimize bs[i])
    (h₂ : ∀ b', O.compare bs[i] b' = O₀.compare bs[i] b') :
    (optimizeContract O bs)[i]'(by simp [optimizeContract, hi]) =
      (optimizeContract O₀ bs)[i]'(by simp [optimizeContract, hi]) := by
  simp only [optimizeContract, List.getElem_map, optimizeBlock, h₁, h₂]

theorem replay_sound (sem : Blk → List Instr) (rebuild : Blk → Option Blk) (compare : Blk → Blk → Option Bool)
    (hCmp : ∀ b b', compare b b' = some true → ObsEq (sem b) (sem b')) (b out : Blk)
    (h : replayBlock rebuild compare b = some out) : ObsEq (sem b) (sem out) :=
  hCmp b out (replayBlock_eq_some.mp h).2

/-- C01 at pipeline level: for every search and analysis oracle, if the re-check only accepts
    equivalent blocks, the emitted block is equivalent to the input -/
theorem optimizeBlock_obsEq (sem : Blk → List Instr) (O : Oracles Blk)
    (hCmp : ∀ b b', O.compare b b' = some true → ObsEq (sem b) (sem b')) (b : Blk) :
    ObsEq (sem b) (sem (optimizeBlock O b)) := by
  rw [optimizeBlock_eq]
  cases hr : replayBlock O.optimize O.compare b with
  | none => exact ObsEq.refl _
  | some out => exact replay_sound sem _ _ hCmp b out hr

/-- replaying the log of a run reproduces the run, when analysis and checking are functions of the block -/
theorem replay_roundtrip (O : Oracles Blk) (b b' : Blk) (h₁ : O.optimize b = some b') (h₂ : O.compare b b' = some true) :
    replayBlock (fun _ => some b') O.compare b = some (optimizeBlock O b) := by
  rw [optimizeBlock_eq, replayBlock_eq_some.mpr ⟨h₁, h₂⟩]
  exact replayBlock_eq_some.mpr ⟨rfl, h₂⟩

end GasolVerif.Pipeline
