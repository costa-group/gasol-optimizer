/-
  (V) Symbolic execution of straight-line blocks (no external operations) and its exactness:
  running a block concretely from `σ₀` is the same as evaluating its symbolic result in `σ₀`,
  including *when* the block runs (stack depth).
-/
import GasolVerif.Term
namespace GasolVerif

structure SymSt where
  stk : List Tm
  base : Nat          -- number of words of the initial stack already consumed
  mem : Tm
  sto : Tm
  deriving DecidableEq, Repr, Inhabited

def SymSt.init : SymSt := ⟨[], 0, .mem0, .sto0⟩

/-- make the symbolic stack at least `n` deep by naming further words of the initial stack -/
def SymSt.ensure (n : Nat) (S : SymSt) : SymSt :=
  { S with stk := S.stk ++ (List.range (n - S.stk.length)).map (fun j => Tm.var (S.base + j)),
           base := S.base + (n - S.stk.length) }

def symStep : Instr → SymSt → Option SymSt
  | .push w, S => some { S with stk := .const w :: S.stk }
  | .pushSym x, S => some { S with stk := .sym x :: S.stk }
  | .dup k, S =>
    if k = 0 then none else
    let S := S.ensure k
    match S.stk[k - 1]? with
    | some t => some { S with stk := t :: S.stk }
    | none => none
  | .swap k, S =>
    if k = 0 then none else
    let S := S.ensure (k + 1)
    match S.stk with
    | [] => none
    | top :: rest =>
      match rest[k - 1]? with
      | some t => some { S with stk := t :: rest.set (k - 1) top }
      | none => none
  | .pop, S =>
    let S := S.ensure 1
    match S.stk with
    | _ :: r => some { S with stk := r }
    | [] => none
  | .un op, S =>
    let S := S.ensure 1
    match S.stk with
    | a :: r => some { S with stk := .un op a :: r }
    | _ => none
  | .bin op, S =>
    let S := S.ensure 2
    match S.stk with
    | a :: b :: r => some { S with stk := .bin op a b :: r }
    | _ => none
  | .ter op, S =>
    let S := S.ensure 3
    match S.stk with
    | a :: b :: c :: r => some { S with stk := .ter op a b c :: r }
    | _ => none
  | .env0 n, S => some { S with stk := .env0 n :: S.stk }
  | .env1 n, S =>
    let S := S.ensure 1
    match S.stk with
    | a :: r => some { S with stk := .env1 n a :: r }
    | _ => none
  | .mload, S =>
    let S := S.ensure 1
    match S.stk with
    | a :: r => some { S with stk := .mload S.mem a :: r }
    | _ => none
  | .mstore, S =>
    let S := S.ensure 2
    match S.stk with
    | a :: v :: r => some { S with stk := r, mem := .mstore S.mem a v }
    | _ => none
  | .mstore8, S =>
    let S := S.ensure 2
    match S.stk with
    | a :: v :: r => some { S with stk := r, mem := .mstore8 S.mem a v }
    | _ => none
  | .sload, S =>
    let S := S.ensure 1
    match S.stk with
    | k :: r => some { S with stk := .sload S.sto k :: r }
    | _ => none
  | .sstore, S =>
    let S := S.ensure 2
    match S.stk with
    | k :: v :: r => some { S with stk := r, sto := .sstore S.sto k v }
    | _ => none
  | .keccak, S =>
    let S := S.ensure 2
    match S.stk with
    | off :: len :: r => some { S with stk := .keccak S.mem off len :: r }
    | _ => none
  | .ext _ _ _, _ => none

def symExec : List Instr → SymSt → Option SymSt
  | [], S => some S
  | i :: is, S => (symStep i S).bind (symExec is)

/-- the concrete state a symbolic state stands for, relative to the initial state `σ₀` -/
def SymSt.conc (e : Env) (σ₀ : St) (S : SymSt) : St :=
  { stack := S.stk.map (evalW e σ₀) ++ σ₀.stack.drop S.base
    mem := evalM e σ₀ S.mem
    sto := evalS e σ₀ S.sto
    trace := σ₀.trace }

theorem conc_init (e : Env) (σ₀ : St) : SymSt.init.conc e σ₀ = σ₀ := by
  simp [SymSt.conc, SymSt.init, evalM, evalS]

variable (e : Env) (σ₀ : St)

theorem map_var_range (b k : Nat) (h : b + k ≤ σ₀.stack.length) :
    ((List.range k).map (fun j => Tm.var (b + j))).map (evalW e σ₀) = (σ₀.stack.drop b).take k := by
  -- entry `i < k` is `σ₀.stack[b + i]` on both sides
  refine List.ext_getElem (by simp; omega) fun i h1 _ => ?_
  have hi : b + i < σ₀.stack.length := by simp at h1; omega
  simp [evalW, List.getD_eq_getElem?_getD, List.getElem?_eq_getElem hi]

theorem ensure_base (n : Nat) (S : SymSt) : (S.ensure n).base = S.base + (n - S.stk.length) := rfl

theorem ensure_len (n : Nat) (S : SymSt) : n ≤ (S.ensure n).stk.length := by
  simp [SymSt.ensure]; omega

theorem ensure_mem (n : Nat) (S : SymSt) : (S.ensure n).mem = S.mem := rfl
theorem ensure_sto (n : Nat) (S : SymSt) : (S.ensure n).sto = S.sto := rfl

theorem ensure_conc (n : Nat) (S : SymSt) (h : (S.ensure n).base ≤ σ₀.stack.length) :
    (S.ensure n).conc e σ₀ = S.conc e σ₀ := by
  simp only [SymSt.conc, SymSt.ensure, List.map_append]
  rw [map_var_range e σ₀ S.base _ h, List.append_assoc, ← List.drop_drop, List.take_append_drop]

/-- padded to a depth `d` that the initial stack has, a symbolic state has base `d` and stands for the same state -/
theorem ensure_depth (S : SymSt) {d : Nat} (hS : S.base ≤ d) (hd : d ≤ σ₀.stack.length) :
    (S.ensure (S.stk.length + (d - S.base))).base = d ∧
      (S.ensure (S.stk.length + (d - S.base))).conc e σ₀ = S.conc e σ₀ := by
  have hb : (S.ensure (S.stk.length + (d - S.base))).base = d := by
    rw [ensure_base, Nat.add_sub_cancel_left, Nat.add_sub_cancel' hS]
  exact ⟨hb, ensure_conc e σ₀ _ S (Nat.le_trans (Nat.le_of_eq hb) hd)⟩

theorem ensure_fail (n : Nat) (S : SymSt) (hS : S.base ≤ σ₀.stack.length)
    (h : ¬ (S.ensure n).base ≤ σ₀.stack.length) : (S.conc e σ₀).stack.length < n := by
  rw [ensure_base] at h
  simp only [SymSt.conc, List.length_append, List.length_map, List.length_drop]
  omega

/-- how deep into the stack an instruction reaches -/
def Instr.need : Instr → Nat
  | .dup k => k
  | .swap k => k + 1
  | .pop | .un _ | .env1 _ | .mload | .sload => 1
  | .bin _ | .mstore | .mstore8 | .sstore | .keccak => 2
  | .ter _ => 3
  | _ => 0

theorem step_short (i : Instr) (σ : St) (h : σ.stack.length < i.need) : step e i σ = none := by
  obtain ⟨st, m, s, t⟩ := σ
  cases i with
  | push _ | pushSym _ | env0 _ | ext _ _ _ => exact absurd h (Nat.not_lt_zero _)
  | dup k =>
    simp only [step]
    split
    · rfl
    · rw [List.getElem?_eq_none (by simp only [Instr.need] at h; omega)]
  | swap k =>
    simp only [step]
    split
    · rfl
    · cases st with
      | nil => rfl
      | cons a r =>
        simp only [Instr.need, List.length_cons] at h
        simp only [List.getElem?_eq_none (show r.length ≤ k - 1 by omega)]
  | _ =>
    -- every other instruction matches the stack against a pattern `a :: … :: rest` of `need` words and
    -- is `none` otherwise: a stack that matches is too long for `h`
    simp only [step]
    split
    · simp only [Instr.need, List.length_cons] at h; omega
    · rfl

theorem ensure_of_le {n : Nat} {S : SymSt} (h : n ≤ S.stk.length) : S.ensure n = S := by
  simp [SymSt.ensure, Nat.sub_eq_zero_of_le h]

theorem symStep_ensure (i : Instr) (S : SymSt) : symStep i (S.ensure i.need) = symStep i S := by
  -- `symStep i` itself begins by padding to `i.need` (or, where that is 0, not at all)
  cases i <;> simp only [symStep, Instr.need, ensure_of_le (ensure_len _ S), ensure_of_le (Nat.zero_le _)]

theorem getElem?_map_append {α β : Type} {l : List α} {i : Nat} {a : α} (h : l[i]? = some a) (f : α → β)
    (r : List β) : (l.map f ++ r)[i]? = some (f a) := by
  obtain ⟨hi, rfl⟩ := List.getElem?_eq_some_iff.mp h
  rw [List.getElem?_append_left (by simpa using hi), List.getElem?_map, List.getElem?_eq_getElem hi]
  rfl

theorem set_map_append {α β : Type} {l : List α} {i : Nat} (hi : i < l.length) (a : α) (f : α → β)
    (r : List β) : (l.map f ++ r).set i (f a) = (l.set i a).map f ++ r := by
  rw [List.set_append_left _ _ (by simpa using hi), List.map_set]

theorem symStep_deep (i : Instr) (S S' : SymSt) (hd : i.need ≤ S.stk.length) (h : symStep i S = some S') :
    S'.base = S.base ∧ ∀ e σ₀, step e i (S.conc e σ₀) = some (S'.conc e σ₀) := by
  obtain ⟨stk, b, m, s⟩ := S
  cases i <;> simp only [Instr.need] at hd <;>
    simp only [symStep, ensure_of_le (S := ⟨stk, b, m, s⟩) hd] at h
  case push | pushSym | env0 => cases h; exact ⟨rfl, fun _ _ => rfl⟩
  case ext => cases h
  case dup k =>
    split at h
    · cases h                       -- `k = 0`
    · split at h <;> cases h        -- the lookup: `h` excludes `none` and leaves `stk[k - 1]? = some t`
      refine ⟨rfl, fun e σ₀ => ?_⟩
      simp only [SymSt.conc, step, if_neg ‹¬k = 0›, getElem?_map_append ‹_›, List.map_cons, List.cons_append]
  case swap k =>
    split at h
    · cases h                       -- `k = 0`
    · split at h
      · cases h                     -- empty stack
      · split at h <;> cases h      -- the lookup, as for `dup`
        refine ⟨rfl, fun e σ₀ => ?_⟩
        have hk := (List.getElem?_eq_some_iff.mp ‹_›).1
        simp only [SymSt.conc, step, if_neg ‹¬k = 0›, List.map_cons, List.cons_append,
          getElem?_map_append ‹_›, set_map_append hk]
  all_goals
    -- `h` matches the symbolic stack against a pattern `a :: … :: r` (and is `none = some S'` otherwise).  `conc`
    -- maps `evalW` over that stack, so the concrete step matches the same pattern, and what it computes from
    -- the values is what `evalW`, `evalM`, `evalS` unfold to on the new terms: both sides agree by computation
    split at h <;> cases h
    exact ⟨rfl, fun _ _ => rfl⟩

theorem symStep_base (i : Instr) (S S' : SymSt) (h : symStep i S = some S') : S.base ≤ S'.base := by
  rw [← symStep_ensure] at h
  rw [(symStep_deep i _ S' (ensure_len _ S) h).1, ensure_base]
  exact Nat.le_add_right _ _

theorem symStep_conc (i : Instr) (S S' : SymSt) (hS : S.base ≤ σ₀.stack.length)
    (h : symStep i S = some S') :
    step e i (S.conc e σ₀) =
      if S'.base ≤ σ₀.stack.length then some (S'.conc e σ₀) else none := by
  -- pad to the depth the instruction needs: the padded state either exists concretely and is matched
  -- by the concrete step, or the concrete stack is too short for the instruction
  rw [← symStep_ensure] at h
  obtain ⟨hb, hstep⟩ := symStep_deep i _ S' (ensure_len _ S) h
  rw [hb]
  split
  · rename_i hle
    rw [← ensure_conc e σ₀ i.need S hle, hstep]
  · rename_i hle
    exact step_short e i _ (ensure_fail e σ₀ i.need S hS hle)

theorem symExec_base (B : List Instr) (S S' : SymSt) (h : symExec B S = some S') : S.base ≤ S'.base := by
  induction B generalizing S with
  | nil => cases h; exact Nat.le_refl _
  | cons i is ih =>
    obtain ⟨S1, h1, h2⟩ := Option.bind_eq_some_iff.mp h
    exact Nat.le_trans (symStep_base i S S1 h1) (ih S1 h2)

/-- exactness of symbolic execution: the block runs from `S.conc` iff the initial stack is as deep
    as the symbolic run needs, and then ends in the concretisation of the symbolic result -/
theorem symExec_conc (B : List Instr) (S S' : SymSt) (hS : S.base ≤ σ₀.stack.length)
    (h : symExec B S = some S') :
    exec e B (S.conc e σ₀) =
      if S'.base ≤ σ₀.stack.length then some (S'.conc e σ₀) else none := by
  induction B generalizing S with
  | nil => cases h; exact (if_pos hS).symm
  | cons i is ih =>
    obtain ⟨S1, h1, h2⟩ := Option.bind_eq_some_iff.mp h
    rw [exec, symStep_conc e σ₀ i S S1 hS h1]
    split
    · exact ih S1 ‹_› h2
    · -- once too shallow, always too shallow: `base` only grows
      have := symExec_base is S1 S' h2
      exact (if_neg (by omega)).symm

theorem symExec_init (B : List Instr) (S : SymSt) (h : symExec B .init = some S) :
    exec e B σ₀ = if S.base ≤ σ₀.stack.length then some (S.conc e σ₀) else none := by
  rw [← symExec_conc e σ₀ B .init S (Nat.zero_le _) h, conc_init]

end GasolVerif
