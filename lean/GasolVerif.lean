-- foundations, validator, driver glue
import GasolVerif.Word
import GasolVerif.Evm
import GasolVerif.Term
import GasolVerif.Parse
import GasolVerif.Concrete
import GasolVerif.SymExec
import GasolVerif.Norm
import GasolVerif.Equiv
import GasolVerif.Show
import GasolVerif.Pipeline
import GasolVerif.Proofs.WordLemmas
import GasolVerif.Proofs.MemLemmas
import GasolVerif.Proofs.EvalSimp
import GasolVerif.Proofs.NormSound
-- specifications: schedules, realizing sequences, minimum length
import GasolVerif.Models.Spec
import GasolVerif.Models.SpecSem
import GasolVerif.Models.Prune
import GasolVerif.Models.Realize
import GasolVerif.Models.MinLen
import GasolVerif.Proofs.Schedule
import GasolVerif.Proofs.TermOf
import GasolVerif.Proofs.EffOn
import GasolVerif.Proofs.SpecSound
import GasolVerif.Proofs.SpecSim
import GasolVerif.Proofs.PruneSound
import GasolVerif.Proofs.StepId
import GasolVerif.Proofs.RealizeSound
import GasolVerif.Proofs.MinLenSound
-- the Max-SMT encoding
import GasolVerif.Models.Formula
import GasolVerif.Models.FormulaIO
import GasolVerif.Proofs.FormulaSound
import GasolVerif.Models.Encoding
import GasolVerif.Models.EncodingOrder
import GasolVerif.Models.EncodingSoft
import GasolVerif.Models.EncodingEmpty
import GasolVerif.Models.EncodingIO
import GasolVerif.Proofs.EncodingStack
import GasolVerif.Proofs.EncodingSound
import GasolVerif.Proofs.EncodingOrderSound
import GasolVerif.Proofs.EncodingSoftSound
import GasolVerif.Proofs.EncodingEmptySound
import GasolVerif.Proofs.EncodingCapstone
import GasolVerif.Proofs.EncodingExamples
-- the smaller models
import GasolVerif.Models.Cost
import GasolVerif.Models.CostAcc
import GasolVerif.Proofs.CostSound
import GasolVerif.Proofs.FlagSound
import GasolVerif.Models.Asm
import GasolVerif.Proofs.AsmSound
import GasolVerif.Models.Cmp
import GasolVerif.Proofs.CmpSound
import GasolVerif.Models.Plain
import GasolVerif.Models.PlainIO
import GasolVerif.Proofs.PlainSound
import GasolVerif.Proofs.PlainExamples
import GasolVerif.Models.JsonItem
import GasolVerif.Proofs.JsonItemSound
import GasolVerif.Proofs.Determinism
-- obligations over the tables extracted from /repo
import GasolVerif.Generated.Globals
import GasolVerif.Props.Frame
import GasolVerif.Props.Iteration
import GasolVerif.Props.RuleTable
